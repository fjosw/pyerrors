/-
  The observable (PV/Model/Obs.lean): the ensemble of a chain name and the chains enumerated ensemble by ensemble, the
  invariant `Obs.WF` clause by clause, finding a chain or a covariance input by name, reading a fluctuation by
  configuration number.
-/
import Mathlib.Data.List.TakeWhile
import PV.Proofs.IdlLemmas

namespace PV

variable {α : Type}

theorem strictSortedStr_iff {l : List String} : strictSortedStr l = true ↔ l.Pairwise (· < ·) := by
  rw [← List.isChain_iff_pairwise]
  fun_induction strictSortedStr l with
  | case1 x y r ih => rw [Bool.and_eq_true, decide_eq_true_eq, ih, List.isChain_cons_cons]
  | case2 l hl =>
    match l, hl with
    | [], _ => simp
    | [_], _ => simp
    | x :: y :: r, hl => exact absurd rfl (hl x y r)

/-! ### the ensemble of a chain name -/

theorem toList_ensOf (n : String) : (Py.ensOf n).toList = n.toList.takeWhile (· != '|') := by
  simp [Py.ensOf]

theorem ensOf_no_bar (n : String) : '|' ∉ (Py.ensOf n).toList := by
  rw [toList_ensOf]
  exact fun h => by simpa using List.mem_takeWhile_imp h

/-- the two tests of `e_content` (`name.startswith(e + '|')`, `name == e`) say that the name's ensemble is `e` -/
theorem belongs_iff {e n : List Char} (he : '|' ∉ e) :
    ((e ++ ['|']).isPrefixOf n = true ∨ n = e) ↔ n.takeWhile (· != '|') = e := by
  have hself : e.takeWhile (· != '|') = e :=
    List.takeWhile_eq_self_iff.mpr fun c hc => by simpa using fun h : c = '|' => he (h ▸ hc)
  constructor
  · rintro (h | rfl)
    · obtain ⟨t, rfl⟩ := List.isPrefixOf_iff_prefix.mp h
      rw [List.append_assoc, List.takeWhile_append, hself]
      simp
    · exact hself
  · rintro rfl
    have hsplit := List.takeWhile_append_dropWhile (p := (· != '|')) (l := n)
    cases hd : n.dropWhile (· != '|') with
    | nil => exact Or.inr (by simpa [hd] using hsplit.symm)
    | cons c t =>
      have hc : c = '|' := by simpa [hd] using List.head_dropWhile_not (p := (· != '|')) (l := n) (w := by simp [hd])
      subst hc
      exact Or.inl (List.isPrefixOf_iff_prefix.mpr ⟨t, by rw [List.append_assoc, List.singleton_append, ← hd, hsplit]⟩)

theorem ensOf_prefix_or_eq (m : String) : ((Py.ensOf m ++ "|").isPrefixOf m || m == Py.ensOf m) = true := by
  have h := (belongs_iff (ensOf_no_bar m)).mpr (toList_ensOf m).symm
  rw [Bool.or_eq_true, beq_iff_eq, String.ext_iff (s₁ := m)]
  refine h.imp_left fun h => ?_
  unfold String.isPrefixOf
  exact String.startsWith_string_iff.mpr (by simpa using List.isPrefixOf_iff_prefix.mp h)

/-! ### the chains of an observable, ensemble by ensemble -/

theorem filter_or_perm {β : Type} (p q : β → Bool) (l : List β) (hdis : ∀ x ∈ l, ¬ (p x = true ∧ q x = true)) :
    (l.filter p ++ l.filter q).Perm (l.filter (fun x => p x || q x)) := by
  refine (List.Perm.of_eq ?_).trans (List.filter_append_perm p (l.filter fun x => p x || q x))
  rw [List.filter_filter, List.filter_filter]
  refine congrArg₂ _ (List.filter_congr fun x _ => ?_) (List.filter_congr fun x hx => ?_)
  · cases p x <;> rfl
  · cases hp : p x <;> cases hq : q x
    exacts [rfl, rfl, rfl, absurd ⟨hp, hq⟩ (hdis x hx)]

theorem perm_flatMap_filter {β κ : Type} [DecidableEq κ] (f : β → κ) (K : List κ) (l : List β)
    (hK : K.Nodup) (hcov : ∀ x ∈ l, f x ∈ K) : (K.flatMap (fun k => l.filter (fun x => decide (f x = k)))).Perm l := by
  suffices H : (K.flatMap fun k => l.filter fun x => decide (f x = k)).Perm (l.filter fun x => decide (f x ∈ K)) from
    H.trans (.of_eq (List.filter_eq_self.mpr fun x hx => decide_eq_true (hcov x hx)))
  clear hcov
  induction K with
  | nil => simp
  | cons k K ih =>
    rw [List.nodup_cons] at hK
    refine ((ih hK.2).append_left _).trans ((filter_or_perm _ _ l fun x _ h => ?_).trans
      (.of_eq (List.filter_congr fun x _ => ?_)))
    · exact hK.1 (of_decide_eq_true h.1 ▸ of_decide_eq_true h.2)
    · simp only [List.mem_cons, Bool.decide_or]

theorem mem_mcNames {o : Obs α} {e : String} : e ∈ o.mcNames ↔ ∃ m ∈ o.names, Py.ensOf m = e := by
  rw [Obs.mcNames, Py.mem_sortedSetStr, List.mem_map]

theorem Obs.eContent_perm (o : Obs α) (e : String) (he : '|' ∉ e.toList) :
    (o.eContent e).Perm (o.reps.filter (fun r => decide (Py.ensOf r.name = e))) := by
  unfold Obs.eContent
  refine (filter_or_perm _ _ o.reps ?_).trans (List.Perm.of_eq (List.filter_congr fun r _ => ?_))
  · intro r _ ⟨h1, h2⟩
    rw [eq_of_beq h2, List.isPrefixOf_iff_prefix] at h1
    simpa using h1.length_le
  · rw [Bool.eq_iff_iff, Bool.or_eq_true, beq_iff_eq, decide_eq_true_eq, String.ext_iff (s₂ := e),
      String.ext_iff (s₂ := e), toList_ensOf, ← belongs_iff he]
    simp

/-- `mc_names` and `e_content` together visit every chain exactly once -/
theorem Obs.chains_perm (o : Obs α) : (o.mcNames.flatMap o.eContent).Perm o.reps := by
  have hcov : ∀ r ∈ o.reps, Py.ensOf r.name ∈ o.mcNames := fun r hr =>
    mem_mcNames.mpr ⟨r.name, List.mem_map_of_mem hr, rfl⟩
  refine (List.Perm.flatMap_left _ (fun e he => ?_)).trans
    (perm_flatMap_filter (fun r : Rep α => Py.ensOf r.name) o.mcNames o.reps
      ((Py.pairwise_sortedSetStr _).imp ne_of_lt) hcov)
  obtain ⟨n, _, rfl⟩ := mem_mcNames.mp he
  exact eContent_perm o _ (ensOf_no_bar n)

structure Obs.WFacts (o : Obs α) : Prop where
  names : o.names.Pairwise (· < ·)
  idl : ∀ r ∈ o.reps, Idl.strictInc r.idl.toList = true
  len : ∀ r ∈ o.reps, r.deltas.length = r.idl.len
  form : ∀ r ∈ o.reps, match r.idl with | .range _ _ st => 0 < st | .list l => equallySpaced l = false
  covNames : o.covNames.Pairwise (· < ·)
  covName : ∀ n ∈ o.covNames, n.contains '|' = false ∧ n ∉ o.names
  covShape : ∀ c ∈ o.covs, c.cov.length = c.grad.length ∧ ∀ row ∈ c.cov, row.length = c.grad.length

theorem Obs.wf_iff {o : Obs α} : o.WF = true ↔ o.WFacts := by
  simp only [Obs.WF, Bool.and_eq_true, List.all_eq_true, strictSortedStr_iff, beq_iff_eq, Bool.not_eq_true',
    List.contains_eq_mem, decide_eq_false_iff_not]
  have hform : ∀ i : Idl, (match i with | .range _ _ st => decide (st > 0) | .list l => !equallySpaced l) = true ↔
      (match i with | .range _ _ st => 0 < st | .list l => equallySpaced l = false) := fun i => by
    cases i <;> simp
  constructor
  · rintro ⟨⟨⟨⟨h1, h2⟩, h3⟩, h4⟩, h5⟩
    exact ⟨h1, fun r hr => (h2 r hr).1.1, fun r hr => (h2 r hr).1.2, fun r hr => (hform _).mp (h2 r hr).2, h3, h4, h5⟩
  · rintro ⟨h1, h2, h3, h4, h5, h6, h7⟩
    exact ⟨⟨⟨⟨h1, fun r hr => ⟨⟨h2 r hr, h3 r hr⟩, (hform _).mpr (h4 r hr)⟩⟩, h5⟩, h6⟩, h7⟩

namespace Obs.WFacts
variable {o : Obs α} (h : o.WFacts)
include h

theorem pairwise {r : Rep α} (hr : r ∈ o.reps) : r.idl.toList.Pairwise (· < ·) := Idl.strictInc_iff.mp (h.idl r hr)
theorem names_nodup : o.names.Nodup := h.names.imp ne_of_lt
theorem covNames_nodup : o.covNames.Nodup := h.covNames.imp ne_of_lt

theorem range_step {s : Int} {n : Nat} {st : Int} (hm : Idl.range s n st ∈ o.reps.map (·.idl)) : 0 < st := by
  obtain ⟨r, hr, hri⟩ := List.mem_map.mp hm
  simpa only [hri] using h.form r hr

/-- in the form the constructor's callers need it (`idl=[r.idl for r in reps]`, no range of step 0) -/
theorem step_ne_zero (il : List Idl) (e : some (o.reps.map (·.idl)) = some il) (s : Int) (n : Nat) (st : Int)
    (hm : Idl.range s n st ∈ il) : st ≠ 0 := by
  cases e
  exact (h.range_step hm).ne'

theorem normalise_idl {r : Rep α} (hr : r ∈ o.reps)
    (h2 : ∀ s n st, r.idl = Idl.range s n st → 2 ≤ n) : Idl.normalise (.list r.idl.toList) = .ok r.idl :=
  JsonDoc.normalise_toList_self r.idl (h.idl r hr)
    ⟨fun s n st he => ⟨by simpa [he] using h.form r hr, h2 s n st he⟩, fun l he => by simpa [he] using h.form r hr⟩

end Obs.WFacts

theorem find?_key_eq_some {β κ : Type} [BEq κ] [LawfulBEq κ] {key : β → κ} {l : List β} {k : κ} {x : β}
    (h : l.find? (key · == k) = some x) : x ∈ l ∧ key x = k :=
  ⟨List.mem_of_find?_eq_some h, by simpa using List.find?_some h⟩

theorem find?_key_of_mem {β κ : Type} [BEq κ] [LawfulBEq κ] {key : β → κ} {l : List β} (hnd : (l.map key).Nodup)
    {x : β} (hx : x ∈ l) : l.find? (key · == key x) = some x := by
  cases hf : l.find? (key · == key x) with
  | none => simpa using List.find?_eq_none.mp hf x hx
  | some y =>
    obtain ⟨hy, hk⟩ := find?_key_eq_some hf
    rw [List.inj_on_of_nodup_map hnd hy hx hk]

namespace Obs
variable {o : Obs α} {n : String}

theorem rep?_eq_some {r : Rep α} (h : o.rep? n = some r) : r ∈ o.reps ∧ r.name = n := find?_key_eq_some h
theorem cov?_eq_some {c : CovIn α} (h : o.cov? n = some c) : c ∈ o.covs ∧ c.name = n := find?_key_eq_some h

theorem rep?_isSome : (o.rep? n).isSome = true ↔ n ∈ o.names := by
  simp only [rep?, names, List.find?_isSome, beq_iff_eq, List.mem_map]

theorem rep?_of_mem (hnd : o.names.Nodup) {r : Rep α} (hr : r ∈ o.reps) : o.rep? r.name = some r :=
  find?_key_of_mem hnd hr
theorem cov?_of_mem (hnd : o.covNames.Nodup) {c : CovIn α} (hc : c ∈ o.covs) : o.cov? c.name = some c :=
  find?_key_of_mem hnd hc

/-! ### reading a fluctuation by configuration number -/

theorem delta?_eq_none {r : Rep α} (hr : o.rep? n = some r) {c : Int} (hc : c ∉ r.idl.toList) :
    o.delta? n c = none := by
  simp [delta?, hr, Idl.pos?_eq_none hc]

theorem delta?_of_map {r : Rep α} (hr : o.rep? n = some r) {D : Int → α} (hd : r.deltas = r.idl.toList.map D)
    {c : Int} (hc : c ∈ r.idl.toList) : o.delta? n c = some (D c) := by
  obtain ⟨k, hk, rfl⟩ := List.mem_iff_getElem.mp hc
  have hlt : r.idl.toList.findIdx (· == r.idl.toList[k]) < r.idl.toList.length :=
    List.idxOf_lt_length_of_mem (List.getElem_mem hk)
  simp only [delta?, hr, Idl.pos?, hlt, Option.bind_eq_bind, Option.bind_some, if_true, hd, List.getElem?_map,
    List.getElem?_eq_getElem hlt, Option.map_some, eq_of_beq (List.findIdx_getElem (w := hlt))]

end Obs
end PV
