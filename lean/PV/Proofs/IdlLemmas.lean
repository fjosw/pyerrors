/-
  Configuration lists (`Idl`, PV/Model/Obs.lean): strictly increasing = `Pairwise (· < ·)`, arithmetic progressions,
  looking a configuration number up (`Idl.pos?`), the normal form `Idl.normalise` puts an explicit list into, and
  `_merge_idx` as the sorted union.
-/
import Mathlib.Data.List.Pairwise
import Mathlib.Tactic.Ring
import PV.Proofs.Sort
import PV.Model.Obs

namespace PV
namespace Idl

theorem strictInc_iff {l : List Int} : strictInc l = true ↔ l.Pairwise (· < ·) := by
  rw [← List.isChain_iff_pairwise]
  fun_induction strictInc l with
  | case1 x y r ih => rw [Bool.and_eq_true, decide_eq_true_eq, ih, List.isChain_cons_cons]
  | case2 l hl =>
    match l, hl with
    | [], _ => simp
    | [_], _ => simp
    | x :: y :: r, hl => exact absurd rfl (hl x y r)

theorem strictInc_sortedSet (l : List Int) : strictInc (Py.sortedSet l) = true :=
  strictInc_iff.mpr (Py.pairwise_sortedSet l)

theorem headD_le_of_pairwise {l : List Int} (h : l.Pairwise (· < ·)) {c : Int} (hc : c ∈ l) : l.headD 0 ≤ c := by
  rw [List.headD_eq_head?_getD, List.head?_eq_some_head (List.ne_nil_of_mem hc)]
  exact (h.imp le_of_lt).rel_head hc

theorem le_getLastD_of_pairwise {l : List Int} (h : l.Pairwise (· < ·)) {c : Int} (hc : c ∈ l) :
    c ≤ l.getLastD 0 := by
  rw [List.getLastD_eq_getLast?, List.getLast?_eq_some_getLast (List.ne_nil_of_mem hc)]
  exact (h.imp le_of_lt).rel_getLast hc

theorem first_le_last {i : Idl} (hpw : i.toList.Pairwise (· < ·)) (hpos : 0 < i.len) : i.first ≤ i.last := by
  unfold first last len at *
  cases h : i.toList with
  | nil => simp [h] at hpos
  | cons a t => exact le_getLastD_of_pairwise (h ▸ hpw) (by simp)

/-! ### the position of a configuration number -/

theorem pos?_getElem {i : Idl} (h : i.toList.Pairwise (· < ·)) {k : Nat} (hk : k < i.toList.length) :
    i.pos? i.toList[k] = some k := by
  have : i.toList.findIdx (· == i.toList[k]) = k := List.Nodup.idxOf_getElem (h.imp ne_of_lt) k hk
  simp only [pos?, this, hk, if_true]

theorem pos?_of_mem {i : Idl} (h : i.toList.Pairwise (· < ·)) {c : Int} (hc : c ∈ i.toList) :
    ∃ k, ∃ hk : k < i.toList.length, i.toList[k] = c ∧ i.pos? c = some k := by
  obtain ⟨k, hk, rfl⟩ := List.mem_iff_getElem.mp hc
  exact ⟨k, hk, rfl, pos?_getElem h hk⟩

theorem pos?_eq_none {i : Idl} {c : Int} (hc : c ∉ i.toList) : i.pos? c = none := by
  unfold pos?
  exact if_neg (mt List.idxOf_lt_length_iff.mp hc)

theorem pos?_congr {a b : Idl} (h : a.toList = b.toList) (c : Int) : a.pos? c = b.pos? c := by
  unfold pos?; rw [h]

/-! ### arithmetic progressions -/

theorem toList_range_succ (s : Int) (n : Nat) (st : Int) :
    (range s (n + 1) st).toList = s :: (range (s + st) n st).toList := by
  simp only [toList, List.range_succ_eq_map, List.map_cons, List.map_map]
  refine congrArg₂ _ (by simp) (List.map_congr_left fun k _ => ?_)
  simp only [Function.comp, Nat.cast_succ]
  ring

theorem length_toList_range (s : Int) (n : Nat) (st : Int) : (range s n st).toList.length = n := by
  simp [toList]

theorem range_first (s : Int) (n : Nat) (st : Int) (hn : 0 < n) : (range s n st).first = s := by
  unfold first toList
  cases n with
  | zero => omega
  | succ m => simp [List.range_succ_eq_map]

theorem range_last (s : Int) (n : Nat) (st : Int) (hn : 0 < n) : (range s n st).last = s + st * ((n : Int) - 1) := by
  unfold last toList
  cases n with
  | zero => omega
  | succ m =>
    show ((List.range (m + 1)).map (fun (k : Nat) => s + st * (k : Int))).getLastD 0 = _
    rw [List.range_succ, List.map_append]
    simp

theorem diffs_range (s : Int) (n : Nat) (st : Int) : diffs (range s n st).toList = List.replicate (n - 1) st := by
  induction n generalizing s with
  | zero => rfl
  | succ n ih =>
    cases n with
    | zero => rfl
    | succ m =>
      have := ih (s + st)
      rw [toList_range_succ] at this ⊢
      rw [toList_range_succ, diffs, this]
      simp [List.replicate_succ, add_sub_cancel_left]

theorem toList_range_of_diffs {l : List Int} {d : Int} (h : ∀ e ∈ diffs l, e = d) :
    (range (l.headD 0) l.length d).toList = l := by
  induction l with
  | nil => rfl
  | cons x t ih =>
    cases t with
    | nil => simp [toList]
    | cons y r =>
      simp only [diffs, List.mem_cons, forall_eq_or_imp] at h
      have := ih h.2
      simp only [List.length_cons, List.headD_cons] at this ⊢
      rw [toList_range_succ, show x + d = y by omega, this]

theorem diffs_pos_of_strictInc {l : List Int} (h : strictInc l = true) : ∀ d ∈ diffs l, 0 < d := by
  fun_induction diffs l with
  | case1 x y r ih =>
    simp only [strictInc, Bool.and_eq_true, decide_eq_true_eq] at h
    simp only [List.mem_cons, forall_eq_or_imp]
    exact ⟨by omega, ih h.2⟩
  | case2 l hl => simp

theorem strictInc_of_diffs_pos {l : List Int} (h : ∀ d ∈ diffs l, 0 < d) : strictInc l = true := by
  fun_induction diffs l with
  | case1 x y r ih =>
    simp only [List.mem_cons, forall_eq_or_imp] at h
    simp only [strictInc, Bool.and_eq_true, decide_eq_true_eq]
    exact ⟨by omega, ih h.2⟩
  | case2 l hl =>
    match l, hl with
    | [], _ => rfl
    | [_], _ => rfl
    | x :: y :: r, hl => exact absurd rfl (hl x y r)

theorem strictInc_range_iff {s : Int} {n : Nat} {st : Int} (hn : 2 ≤ n) :
    strictInc (range s n st).toList = true ↔ 0 < st := by
  refine ⟨fun h => ?_, fun h => strictInc_of_diffs_pos fun d hd => ?_⟩
  · exact diffs_pos_of_strictInc h st (by rw [diffs_range]; exact List.mem_replicate.mpr ⟨by omega, rfl⟩)
  · rw [diffs_range] at hd
    exact (List.mem_replicate.mp hd).2 ▸ h

end Idl

open Idl

theorem equallySpaced_iff {l : List Int} : equallySpaced l = true ↔ Idl.diffs l ≠ [] ∧ ∃ d, ∀ e ∈ Idl.diffs l, e = d := by
  unfold equallySpaced
  split
  · rename_i h; simp [h]
  · rename_i d ds h
    simp only [h, List.all_eq_true, beq_iff_eq, ne_eq, reduceCtorEq, not_false_eq_true, List.mem_cons,
      forall_eq_or_imp, true_and]
    exact ⟨fun hh => ⟨d, rfl, hh⟩, fun ⟨d', h1, h2⟩ e he => (h2 e he).trans h1.symm⟩

theorem equallySpaced_range {s : Int} {n : Nat} {st : Int} : equallySpaced (Idl.range s n st).toList = true ↔ 2 ≤ n := by
  rw [equallySpaced_iff, diffs_range, ne_eq, List.replicate_eq_nil_iff]
  exact ⟨fun h => by omega, fun h => ⟨by omega, st, fun e he => (List.mem_replicate.mp he).2⟩⟩

/-! ### the normal form -/

namespace Idl

theorem normalise_range_eq_ok {s : Int} {n : Nat} {st : Int} {i : Idl} :
    normalise (range s n st) = .ok i ↔ 0 ≤ st ∧ i = range s n st := by
  simp only [normalise]
  split
  · exact iff_of_false nofun (by omega)
  · exact ⟨fun h => ⟨by omega, by cases h; rfl⟩, fun h => h.2 ▸ rfl⟩

theorem sortedSet_diffs_eq_singleton {l : List Int} {d : Int} :
    Py.sortedSet (diffs l) = [d] ↔ diffs l ≠ [] ∧ ∀ e ∈ diffs l, e = d := by
  constructor
  · intro h
    have hm : ∀ e, e ∈ diffs l ↔ e = d := fun e => by rw [← Py.mem_sortedSet, h, List.mem_singleton]
    exact ⟨List.ne_nil_of_mem ((hm d).mpr rfl), fun e => (hm e).mp⟩
  · rintro ⟨hne, h⟩
    obtain ⟨e, he⟩ := List.exists_mem_of_ne_nil _ hne
    refine Py.sortedSet_eq_of (List.pairwise_singleton _ _) fun x => ?_
    rw [List.mem_singleton]
    exact ⟨fun hx => hx ▸ h e he ▸ he, h x⟩

theorem strictInc_of_normalise {l : List Int} {i : Idl} (h : normalise (list l) = .ok i) : strictInc l = true := by
  refine strictInc_of_diffs_pos fun d hd => ?_
  have hd' := Py.mem_sortedSet.mpr hd
  simp only [normalise] at h
  split at h
  · cases h
  · rename_i hneg
    split at h
    · cases h
    · rename_i hzero
      have h1 : ¬ d < 0 := fun hlt => hneg (List.any_eq_true.mpr ⟨d, hd', by simpa using hlt⟩)
      have h2 : ¬ d = 0 := fun he => hzero (List.any_eq_true.mpr ⟨d, hd', by simpa using he⟩)
      omega

theorem normalise_list {l : List Int} (hs : strictInc l = true) :
    ∃ i, normalise (list l) = .ok i ∧ i.toList = l ∧ (i.isRange = true ↔ equallySpaced l = true) := by
  have hpos := diffs_pos_of_strictInc hs
  have h1 : (Py.sortedSet (diffs l)).any (· < 0) = false :=
    List.any_eq_false.mpr fun x hx => by have := hpos x (Py.mem_sortedSet.mp hx); simp; omega
  have h2 : (Py.sortedSet (diffs l)).any (· == 0) = false :=
    List.any_eq_false.mpr fun x hx => by have := hpos x (Py.mem_sortedSet.mp hx); simp; omega
  simp only [normalise, h1, h2, Bool.false_eq_true, if_false]
  split
  · rename_i d hd
    obtain ⟨hne, hall⟩ := sortedSet_diffs_eq_singleton.mp hd
    exact ⟨_, rfl, toList_range_of_diffs hall, iff_of_true rfl (equallySpaced_iff.mpr ⟨hne, d, hall⟩)⟩
  · rename_i hne
    refine ⟨_, rfl, rfl, iff_of_false nofun fun he => ?_⟩
    obtain ⟨hnil, d, hd⟩ := equallySpaced_iff.mp he
    exact hne d (sortedSet_diffs_eq_singleton.mpr ⟨hnil, hd⟩)

theorem normalise_toList {i j : Idl} (h : normalise i = .ok j) : j.toList = i.toList := by
  cases i with
  | range s n st => rw [(normalise_range_eq_ok.mp h).2]
  | list l =>
    obtain ⟨j', hj', htl, _⟩ := normalise_list (strictInc_of_normalise h)
    cases h.symm.trans hj'
    exact htl

/-- what `derived_observable` stores: the normal form where there is one -/
def normOr (i : Idl) : Idl :=
  match normalise i with
  | .ok j => j
  | .error _ => i

theorem normOr_range (s : Int) (n : Nat) (st : Int) : normOr (range s n st) = range s n st := by
  simp only [normOr, normalise]
  split_ifs <;> rfl

theorem normOr_list {l : List Int} (hs : strictInc l = true) :
    (normOr (list l)).toList = l ∧ ((normOr (list l)).isRange = true ↔ equallySpaced l = true) := by
  obtain ⟨i, hi, h⟩ := normalise_list hs
  simpa only [normOr, hi] using h

theorem normOr_toList (i : Idl) : (normOr i).toList = i.toList := by
  unfold normOr
  split
  · exact normalise_toList ‹_›
  · rfl

theorem normOr_isRange_of_equallySpaced {i : Idl} (hs : strictInc i.toList = true)
    (h : equallySpaced (normOr i).toList = true) : (normOr i).isRange = true := by
  cases i with
  | range s n st => rw [normOr_range]; rfl
  | list l => exact (normOr_list hs).2.mpr (by rwa [normOr_toList] at h)

theorem normOr_isRange_iff {i : Idl} (hs : strictInc i.toList = true) (hr : ∀ s n st, i = range s n st → 2 ≤ n) :
    (normOr i).isRange = true ↔ equallySpaced (normOr i).toList = true := by
  refine ⟨fun h => ?_, normOr_isRange_of_equallySpaced hs⟩
  cases i with
  | range s n st => rw [normOr_range, equallySpaced_range]; exact hr s n st rfl
  | list l => rw [normOr_toList]; exact (normOr_list hs).2.mp h

end Idl

/-- the normal form of C04 is a fixed point of the constructor's normalisation -/
theorem JsonDoc.normalise_toList_self (i : Idl) (hs : Idl.strictInc i.toList = true)
    (hform : (∀ s n st, i = Idl.range s n st → 0 < st ∧ 2 ≤ n) ∧ (∀ l, i = Idl.list l → equallySpaced l = false)) :
    Idl.normalise (.list i.toList) = .ok i := by
  obtain ⟨j, hj, htl, hiff⟩ := normalise_list hs
  rw [hj]
  cases i with
  | list l =>
    cases j with
    | list l' => exact congrArg _ (congrArg _ htl)
    | range => exact absurd (hiff.mp rfl) (by simp [toList, hform.2 l rfl])
  | range s n st =>
    obtain ⟨hst, hn⟩ := hform.1 s n st rfl
    cases j with
    | list l' => exact absurd (hiff.mpr (equallySpaced_range.mpr hn)) nofun
    | range s' n' st' =>
      have hlen := congrArg List.length htl
      rw [length_toList_range, length_toList_range] at hlen
      obtain ⟨m, rfl⟩ : ∃ m, n = m + 2 := ⟨n - 2, by omega⟩
      subst hlen
      simp only [toList_range_succ, List.cons.injEq] at htl
      obtain ⟨rfl, h2, _⟩ := htl
      rw [show st' = st by omega]

/-! ### `_merge_idx` -/

/-- the second clause: `_merge_idx` returns a list handed in when all agree, and otherwise builds a range only from two
    configurations on -/
theorem mergeIdx_spec (L : List Idl) (hL : ∀ i ∈ L, Idl.strictInc i.toList = true) :
    (mergeIdx L).toList = Py.sortedSet (L.flatMap Idl.toList) ∧
    (mergeIdx L ∈ L ∨ ∀ s n st, mergeIdx L = Idl.range s n st → 2 ≤ n) := by
  cases L with
  | nil => exact ⟨rfl, Or.inr nofun⟩
  | cons i0 rest =>
    simp only [mergeIdx]
    split
    · rename_i hall
      refine ⟨(Py.sortedSet_eq_of (strictInc_iff.mp (hL i0 (by simp))) fun x => ?_).symm, Or.inl (by simp)⟩
      simp only [List.flatMap_cons, List.mem_append, List.mem_flatMap]
      refine ⟨Or.inl, ?_⟩
      rintro (hx | ⟨i, hi, hx⟩)
      · exact hx
      · have := List.all_eq_true.mp hall i hi
        simp only [Idl.sameSeq, Bool.and_eq_true, beq_iff_eq] at this
        exact this.1 ▸ hx
    · generalize Py.sortedSet ((i0 :: rest).flatMap Idl.toList) = u
      split
      · split
        · rename_i heq
          refine ⟨eq_of_beq heq, Or.inr fun s n st hr => ?_⟩
          have := congrArg List.length (eq_of_beq heq)
          rw [hr, length_toList_range] at this
          simp [this]
        · exact ⟨rfl, Or.inr nofun⟩
      · exact ⟨rfl, Or.inr nofun⟩

theorem mergeIdx_toList (idl : List Idl) (h : ∀ i ∈ idl, Idl.strictInc i.toList = true) :
    (mergeIdx idl).toList = Py.sortedSet (idl.flatMap Idl.toList) :=
  (mergeIdx_spec idl h).1

end PV
