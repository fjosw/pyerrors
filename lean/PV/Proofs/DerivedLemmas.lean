/-
  `derived_observable` (PV/Model/Obs.lean `derivedObs`) against the specification by configuration number
  (PV/Spec/Propagate.lean): chain `n` of the result is `resRep`, on the merged list `mergedIdl`, which is the sorted
  union of the inputs' configurations, with the fluctuations `Spec.delta` (`newDeltas_eq`).  The last two parts sum up
  one step as `IsDerived` and prepare `Spec.sigma` as a ratio of sums `lenSum`, for the composition theorems of
  PV/Props/C01.lean.
-/
import PV.Proofs.ObsLemmas
import PV.Proofs.FluctLemmas
import PV.Spec.Propagate

namespace PV
open PV.RealS

section names
variable {α : Type} {xs : List (Obs α)} {n : String}

theorem mem_newSampleNames :
    n ∈ newSampleNames xs ↔ (∃ x ∈ xs, n ∈ x.names) ∧ ∀ x ∈ xs, n ∉ x.covNames := by
  simp only [newSampleNames, List.mem_filter, Py.mem_sortedSetStr, List.mem_flatMap, List.mem_append,
    Bool.not_eq_true', List.contains_eq_mem, decide_eq_false_iff_not, not_exists, not_and]
  exact and_congr_left fun h => exists_congr fun x => and_congr_right fun hx => or_iff_left (h x hx)

theorem pairwise_newSampleNames (xs : List (Obs α)) : (newSampleNames xs).Pairwise (· < ·) :=
  (Py.pairwise_sortedSetStr _).filter _

def NoClash (xs : List (Obs α)) : Prop := ∀ x ∈ xs, ∀ n ∈ x.names, ∀ x' ∈ xs, n ∉ x'.covNames

theorem NoClash.mem_newSampleNames (h : NoClash xs) : n ∈ newSampleNames xs ↔ ∃ x ∈ xs, n ∈ x.names :=
  PV.mem_newSampleNames.trans (and_iff_left_of_imp fun ⟨x, hx, hn⟩ => h x hx n hn)

end names

section success
variable {α : Type} [Scalar α] {f : List α → α} {g : List α} {xs : List (Obs α)}
  {covEq : List (List α) → List (List α) → Bool} {o : Obs α}

theorem derivedObs_eq_ok : derivedObs f g xs covEq = .ok o ↔ g.length = xs.length ∧ NoClash xs ∧
    ∃ allcov, collectCov covEq (xs.flatMap (·.covs)) [] = .ok allcov ∧ o = derivedCore f g xs allcov := by
  have hclash : ((Py.sortedSetStr (xs.flatMap (·.covNames))).any fun n => xs.any fun o => o.names.contains n) = true
      ↔ ¬ NoClash xs := by
    simp only [List.any_eq_true, Py.mem_sortedSetStr, List.mem_flatMap, List.contains_eq_mem, decide_eq_true_eq,
      NoClash, not_forall, not_not]
    exact ⟨fun ⟨n, ⟨x', hx', hn'⟩, x, hx, hn⟩ => ⟨x, hx, n, hn, x', hx', hn'⟩,
      fun ⟨x, hx, n, hn, x', hx', hn'⟩ => ⟨n, ⟨x', hx', hn'⟩, x, hx, hn⟩⟩
  rw [derivedObs, ite_error_eq_ok, bne_iff_ne, not_not]
  refine and_congr_right' ?_
  cases hc : collectCov covEq (xs.flatMap (·.covs)) [] with
  | error e => exact iff_of_false nofun (fun ⟨_, _, h, _⟩ => nomatch h)
  | ok allcov => simp only [ite_error_eq_ok, hclash, not_not, Except.ok.injEq, exists_eq_left', eq_comm (a := o)]

end success

/-- `new_idl_d[n]` of `derived_observable` -/
def mergedIdl {α : Type} (xs : List (Obs α)) (n : String) : Idl :=
  mergeIdx (xs.filterMap (fun o => (o.rep? n).map (·.idl)))

def resRep {α : Type} [Scalar α] (f : List α → α) (g : List α) (xs : List (Obs α)) (n : String) : Rep α :=
  { name := n, idl := (mergedIdl xs n).normOr, deltas := newDeltas g xs (newIdlD xs) n (mergedIdl xs n),
    rvalue := f (xs.map (fun o => match o.rep? n with | some r => r.rvalue | none => o.value)) }

section reps
variable {α : Type} [Scalar α] (f : List α → α) (g : List α) (xs : List (Obs α))
  (allcov : List (String × List (List α)))

theorem derivedCore_reps : (derivedCore f g xs allcov).reps = (newSampleNames xs).map (resRep f g xs) := by
  simp only [derivedCore, newIdlD, List.map_map]
  refine List.map_congr_left fun n _ => ?_
  simp only [Function.comp, resRep, Idl.normOr, mergedIdl, newIdlD]
  generalize Idl.normalise _ = e
  cases e <;> exact congrArg (Rep.mk _ _ _) (congrArg f (List.map_congr_left fun o _ => by cases o.rep? n <;> rfl))

theorem derivedCore_names : (derivedCore f g xs allcov).names = newSampleNames xs := by
  rw [Obs.names, derivedCore_reps, List.map_map]
  exact List.map_id'' (fun _ => rfl) _

variable {xs} in
theorem derivedCore_rep? {n : String} (hn : n ∈ newSampleNames xs) :
    (derivedCore f g xs allcov).rep? n = some (resRep f g xs n) := by
  refine Obs.rep?_of_mem (r := resRep f g xs n) ?_ ?_
  · rw [derivedCore_names]
    exact (pairwise_newSampleNames xs).imp ne_of_lt
  · rw [derivedCore_reps]
    exact List.mem_map_of_mem hn

end reps

theorem derivedObs_forall_reps {α : Type} [Scalar α] {f : List α → α} {g : List α} {xs : List (Obs α)}
    {covEq : List (List α) → List (List α) → Bool} {o : Obs α} (h : derivedObs f g xs covEq = .ok o) {P : Rep α → Prop}
    (hP : ∀ n ∈ newSampleNames xs, P (resRep f g xs n)) : ∀ r ∈ o.reps, P r := by
  obtain ⟨_, _, allcov, _, rfl⟩ := derivedObs_eq_ok.mp h
  rw [derivedCore_reps]
  exact List.forall_mem_map.mpr hP

/-! ### `Spec.cfgs`, `Spec.unionCfgs` -/

section union
variable {α : Type} {xs : List (Obs α)} {n : String}

theorem Spec.mem_cfgs {o : Obs α} {c : Int} : c ∈ Spec.cfgs o n ↔ ∃ r, o.rep? n = some r ∧ c ∈ r.idl.toList := by
  unfold Spec.cfgs
  cases o.rep? n <;> simp

theorem Spec.cfgs_eq {o : Obs α} {r : Rep α} (h : o.rep? n = some r) : Spec.cfgs o n = r.idl.toList := by
  simp only [Spec.cfgs, h]

theorem Spec.isSome_of_mem_cfgs {o : Obs α} {c : Int} (h : c ∈ Spec.cfgs o n) : (o.rep? n).isSome = true := by
  obtain ⟨r, hr, _⟩ := Spec.mem_cfgs.mp h
  rw [hr]; rfl

theorem cfgs_pairwise (x : Obs α) (hwf : x.WF = true) (n : String) : (Spec.cfgs x n).Pairwise (· < ·) := by
  cases hr : x.rep? n with
  | none => simp [Spec.cfgs, hr]
  | some r => exact Spec.cfgs_eq hr ▸ (Obs.wf_iff.mp hwf).pairwise (Obs.rep?_eq_some hr).1

theorem Obs.delta?_eq_none_of_not_mem_cfgs {o : Obs α} {c : Int} (h : c ∉ Spec.cfgs o n) : o.delta? n c = none := by
  cases hr : o.rep? n with
  | none => simp [Obs.delta?, hr]
  | some r => exact Obs.delta?_eq_none hr (Spec.cfgs_eq hr ▸ h)

theorem Spec.mem_unionCfgs {c : Int} : c ∈ Spec.unionCfgs xs n ↔ ∃ x ∈ xs, c ∈ Spec.cfgs x n := by
  rw [Spec.unionCfgs, Py.mem_sortedSet, List.mem_flatMap]

theorem Spec.pairwise_unionCfgs (xs : List (Obs α)) (n : String) : (Spec.unionCfgs xs n).Pairwise (· < ·) :=
  Py.pairwise_sortedSet _

theorem Spec.unionCfgs_eq_cfgs {x : Obs α} (hx : x ∈ xs) (hwf : x.WF = true)
    (h : ∀ x' ∈ xs, ∀ c ∈ Spec.cfgs x' n, c ∈ Spec.cfgs x n) : Spec.unionCfgs xs n = Spec.cfgs x n := by
  refine Py.sortedSet_eq_of (cfgs_pairwise x hwf n) fun c => ?_
  rw [List.mem_flatMap]
  exact ⟨fun hc => ⟨x, hx, hc⟩, fun ⟨x', hx', hc⟩ => h x' hx' c hc⟩

theorem flatMap_idls (xs : List (Obs α)) (n : String) :
    (xs.filterMap (fun o => (o.rep? n).map (·.idl))).flatMap Idl.toList = xs.flatMap (fun o => Spec.cfgs o n) := by
  rw [List.filterMap_eq_flatMap_toList, List.flatMap_assoc]
  exact List.flatMap_congr fun o _ => by cases h : o.rep? n <;> simp [Spec.cfgs, h]

theorem mem_idls_of_mergedIdl {i : Idl} (hi : i ∈ xs.filterMap (fun o => (o.rep? n).map (·.idl))) :
    ∃ x ∈ xs, ∃ q ∈ x.reps, q.idl = i := by
  obtain ⟨x, hx, hxi⟩ := List.mem_filterMap.mp hi
  obtain ⟨q, hq, rfl⟩ := Option.map_eq_some_iff.mp hxi
  exact ⟨x, hx, q, (Obs.rep?_eq_some hq).1, rfl⟩

theorem mergedIdl_spec (hwf : ∀ x ∈ xs, x.WF = true) (n : String) :
    (mergedIdl xs n).toList = Spec.unionCfgs xs n ∧
    ((∃ x ∈ xs, ∃ q ∈ x.reps, q.idl = mergedIdl xs n) ∨ ∀ s m st, mergedIdl xs n = .range s m st → 2 ≤ m) := by
  have spec := mergeIdx_spec (xs.filterMap fun o => (o.rep? n).map (·.idl)) fun i hi => by
    obtain ⟨x, hx, q, hq, rfl⟩ := mem_idls_of_mergedIdl hi
    exact (Obs.wf_iff.mp (hwf x hx)).idl q hq
  rw [flatMap_idls] at spec
  exact ⟨spec.1, spec.2.imp_left mem_idls_of_mergedIdl⟩

theorem mergedIdl_toList (hwf : ∀ x ∈ xs, x.WF = true) (n : String) :
    (mergedIdl xs n).toList = Spec.unionCfgs xs n :=
  (mergedIdl_spec hwf n).1

theorem strictInc_mergedIdl (hwf : ∀ x ∈ xs, x.WF = true) (n : String) :
    Idl.strictInc (mergedIdl xs n).toList = true :=
  mergedIdl_toList hwf n ▸ Idl.strictInc_sortedSet _

theorem resRep_idl_toList [Scalar α] (f : List α → α) (g : List α) (hwf : ∀ x ∈ xs, x.WF = true) (n : String) :
    (resRep f g xs n).idl.toList = Spec.unionCfgs xs n :=
  (Idl.normOr_toList _).trans (mergedIdl_toList hwf n)

end union

/-! ### the fluctuations of the result: `_expand_deltas_for_merge`, `_compute_scalefactor_missing_rep`, the sum over the inputs -/

theorem expandDeltasForMerge_eq (r : Rep ℝ) (new : Idl) (s : ℝ)
    (hidx : r.idl.toList.Pairwise (· < ·)) (hnew : new.toList.Pairwise (· < ·))
    (hsub : ∀ c ∈ r.idl.toList, c ∈ new.toList) (hlen : r.deltas.length = r.idl.len) :
    expandDeltasForMerge r.deltas r.idl new s
      = new.toList.map (fun c => Spec.fluct r c * ((new.len : ℝ) / (r.idl.len : ℝ)) * s) := by
  unfold expandDeltasForMerge
  split
  · rename_i h
    simp only [Bool.and_eq_true, Idl.sameSeq, beq_iff_eq] at h
    rw [← h.2, show new.len = r.idl.len from congrArg List.length h.2.symm]
    refine List.ext_getElem (by rw [List.length_map, List.length_map, hlen]; rfl) fun k h1 h2 => ?_
    have hk : k < r.idl.toList.length := (List.length_map _) ▸ h2
    have hne : (r.idl.len : ℝ) ≠ 0 := Nat.cast_ne_zero.mpr (Nat.ne_of_gt (Nat.zero_lt_of_lt hk))
    rw [List.getElem_map, List.getElem_map, Spec.fluct_getElem hidx hk, div_self hne, mul_one,
      ← List.getElem_eq_getD]
  · simp only [ofNatS_eq, ofNat_eq_lit, lit_eq, Nat.cast_zero]
    refine List.map_congr_left fun c hc => ?_
    congr 2
    have h1 : ∀ c' ∈ new.toList, new.first ≤ c' := fun _ => Idl.headD_le_of_pairwise hnew
    have h2 : ∀ c' ∈ new.toList, c' ≤ new.last := fun _ => Idl.le_getLastD_of_pairwise hnew
    exact scatter_fluct r (fun c => (c - new.first).toNat) _ hidx hlen
      (fun c' hc' => by have := h1 c' (hsub c' hc'); have := h2 c' (hsub c' hc'); omega) c
      (fun c' hc' he => by have := h1 c' (hsub c' hc'); have := h1 c hc; omega)

/-- `_compute_scalefactor_missing_rep` is the missing-replica factor of the specification -/
theorem scaleFactorMissingRep_eq_sigma {xs : List (Obs ℝ)} (hwf : ∀ x ∈ xs, x.WF = true) (o : Obs ℝ) (e : String) :
    scaleFactorMissingRep o (newIdlD xs) e = Spec.sigma xs o e := by
  have hM : ∀ m, (mergeIdx (xs.filterMap (fun o => (o.rep? m).map (·.idl)))).len = (Spec.unionCfgs xs m).length :=
    fun m => congrArg List.length (mergedIdl_toList hwf m)
  unfold scaleFactorMissingRep Spec.sigma Spec.chainsOf Spec.allChains newIdlD
  simp only [List.filter_map, List.length_map, List.map_map, Function.comp_def, hM]

theorem Obs.delta?_getD {o : Obs ℝ} {n : String} {r : Rep ℝ} (hr : o.rep? n = some r) (c : Int) :
    (o.delta? n c).getD 0 = Spec.fluct r c := by
  unfold Obs.delta? Spec.fluct
  cases h : r.idl.pos? c <;> simp [hr, h, List.getD_eq_getElem?_getD]

theorem foldl_addLists_map (cs : List Int) (Fs : List (Int → ℝ)) (F0 : Int → ℝ) :
    (Fs.map (fun F => cs.map F)).foldl addLists (cs.map F0) = cs.map (fun c => F0 c + (Fs.map (fun F => F c)).sum) := by
  induction Fs generalizing F0 with
  | nil => simp
  | cons F Fs ih =>
    have : addLists (cs.map F0) (cs.map F) = cs.map (fun c => F0 c + F c) := by simp [addLists, List.zipWith_map]
    rw [List.map_cons, List.foldl_cons, this, ih]
    exact List.map_congr_left fun c _ => by rw [List.map_cons, List.sum_cons, add_assoc]

theorem newDeltas_eq (g : List ℝ) {xs : List (Obs ℝ)} (hwf : ∀ x ∈ xs, x.WF = true) (n : String) :
    newDeltas g xs (newIdlD xs) n (mergedIdl xs n) = (Spec.unionCfgs xs n).map (fun c => Spec.delta g xs n c) := by
  have hil := mergedIdl_toList hwf n
  generalize mergedIdl xs n = il at hil
  have hlen : il.len = (Spec.unionCfgs xs n).length := congrArg List.length hil
  unfold newDeltas
  -- the contribution of every input that has the chain is its term of the specification, configuration by configuration
  have hcontrib : (List.zip g xs).filterMap (fun (g, o) =>
        (o.rep? n).map (fun r =>
          (expandDeltasForMerge r.deltas r.idl il (scaleFactorMissingRep o (newIdlD xs) (Py.ensOf n))).map (g * ·)))
      = ((List.zip g xs).filterMap (fun (p : ℝ × Obs ℝ) => (p.2.rep? n).map (fun _ => fun (c : Int) =>
          p.1 * (Spec.weight xs p.2 n * (p.2.delta? n c).getD 0)))).map (fun F => (Spec.unionCfgs xs n).map F) := by
    rw [List.map_filterMap]
    refine List.filterMap_congr ?_
    rintro ⟨a, o⟩ hp
    have ho : o ∈ xs := (List.of_mem_zip hp).2
    cases hrep : o.rep? n with
    | none => simp only [hrep, Option.map_none]
    | some r =>
      have hw := Obs.wf_iff.mp (hwf o ho)
      have hr := (Obs.rep?_eq_some hrep).1
      simp only [hrep, Option.map_some, Option.some.injEq]
      rw [expandDeltasForMerge_eq r il _ (hw.pairwise hr) (hil ▸ Spec.pairwise_unionCfgs xs n)
        (fun c hc => hil ▸ Spec.mem_unionCfgs.mpr ⟨o, ho, Spec.mem_cfgs.mpr ⟨r, hrep, hc⟩⟩) (hw.len r hr),
        scaleFactorMissingRep_eq_sigma hwf, hil, hlen, List.map_map]
      refine List.map_congr_left fun c _ => ?_
      simp only [Function.comp, Obs.delta?_getD hrep c, Spec.weight, Spec.cfgs_eq hrep, ofNatS_eq, Idl.len]
      ring
  have hrep0 : List.replicate il.len (@OfNat.ofNat ℝ 0 (Scalar.instOfNatScalar 0))
      = (Spec.unionCfgs xs n).map (fun _ => (0 : ℝ)) := by
    rw [hlen]; simp
  rw [hcontrib, hrep0, foldl_addLists_map]
  refine List.map_congr_left fun c _ => ?_
  rw [zero_add, Spec.delta, sum_eq, List.map_filterMap]
  exact congrArg List.sum (List.filterMap_congr fun ⟨a, o⟩ _ => by cases h : o.rep? n <;> simp [h])

theorem derivedCore_delta? (f : List ℝ → ℝ) (g : List ℝ) {xs : List (Obs ℝ)} (allcov : List (String × List (List ℝ)))
    (hwf : ∀ x ∈ xs, x.WF = true) {n : String} (hn : n ∈ newSampleNames xs) {c : Int}
    (hc : c ∈ Spec.unionCfgs xs n) : (derivedCore f g xs allcov).delta? n c = some (Spec.delta g xs n c) := by
  have hidl := resRep_idl_toList f g hwf n
  exact Obs.delta?_of_map (derivedCore_rep? f g allcov hn) ((newDeltas_eq g hwf n).trans (hidl ▸ rfl)) (hidl ▸ hc)

/-! ### covariance inputs: `collectCov` and the `covs` of `derivedCore` -/

theorem collectCov_spec (covEq : List (List ℝ) → List (List ℝ) → Bool) (l : List (CovIn ℝ))
    (acc res : List (String × List (List ℝ))) (h : collectCov covEq l acc = .ok res) :
    ∀ p ∈ res, p ∈ acc ∨ ∃ c ∈ l, c.name = p.1 ∧ c.cov = p.2 := by
  induction l generalizing acc with
  | nil => cases h; exact fun p hp => Or.inl hp
  | cons c cs ih =>
    simp only [collectCov] at h
    have lift : ∀ {p : String × List (List ℝ)}, (∃ c' ∈ cs, c'.name = p.1 ∧ c'.cov = p.2) → ∃ c' ∈ c :: cs, c'.name = p.1 ∧ c'.cov = p.2 :=
      fun ⟨c', hc', h2⟩ => ⟨c', List.mem_cons_of_mem _ hc', h2⟩
    intro p hp
    split at h
    · split at h
      · exact (ih _ h p hp).imp_right lift
      · cases h
    · rcases ih _ h p hp with h1 | h1
      · rcases List.mem_append.mp h1 with h1 | h1
        · exact Or.inl h1
        · exact Or.inr ⟨c, by simp, by rw [List.mem_singleton.mp h1]; exact ⟨rfl, rfl⟩⟩
      · exact Or.inr (lift h1)

/-- `parts` of `derivedCore` for covariance input `n` -/
def partsOf (g : List ℝ) (xs : List (Obs ℝ)) (n : String) : List (List ℝ) :=
  (List.zip g xs).filterMap (fun p => (p.2.cov? n).map (fun c => c.grad.map (p.1 * ·)))

theorem mem_partsOf {g : List ℝ} {xs : List (Obs ℝ)} {n : String} {q : List ℝ} (hq : q ∈ partsOf g xs n) :
    ∃ a, ∃ x ∈ xs, ∃ c ∈ x.covs, c.name = n ∧ q = c.grad.map (a * ·) := by
  simp only [partsOf, List.mem_filterMap, Option.map_eq_some_iff] at hq
  obtain ⟨⟨a, x⟩, hx, c, hc, rfl⟩ := hq
  exact ⟨a, x, (List.of_mem_zip hx).2, c, (Obs.cov?_eq_some hc).1, (Obs.cov?_eq_some hc).2, rfl⟩

theorem covGrad_eq (g : List ℝ) (xs : List (Obs ℝ)) (n : String) (k : Nat) :
    Spec.covGrad g xs n k = ((partsOf g xs n).map (·.getD k 0)).sum := by
  simp only [Spec.covGrad, sum_eq, partsOf, List.map_filterMap]
  refine congrArg List.sum (List.filterMap_congr ?_)
  rintro ⟨a, x⟩ _
  cases x.cov? n with
  | none => rfl
  | some c =>
    simp only [Option.map_some, List.getD_eq_getElem?_getD, List.getElem?_map]
    cases c.grad[k]? <;> simp

theorem derivedCore_covs (f : List ℝ → ℝ) (g : List ℝ) (xs : List (Obs ℝ)) (allcov : List (String × List (List ℝ))) :
    (derivedCore f g xs allcov).covNames.Sublist (Py.sortedSetStr (xs.flatMap (·.covNames))) ∧
    ∀ c ∈ (derivedCore f g xs allcov).covs,
      (c.name, c.cov) ∈ allcov ∧ ∃ p ps, partsOf g xs c.name = p :: ps ∧ c.grad = ps.foldl addLists p := by
  constructor
  · simp only [Obs.covNames, derivedCore]
    generalize Py.sortedSetStr _ = L
    induction L with
    | nil => exact .slnil
    | cons n t ih =>
      rw [List.filterMap_cons]
      split
      · exact ih.trans (List.sublist_cons_self _ _)
      · rename_i c hc
        split at hc
        · cases hc; exact ih.cons_cons n
        · cases hc
  · intro c hc
    simp only [derivedCore, List.mem_filterMap] at hc
    obtain ⟨n, _, hc⟩ := hc
    split at hc
    · rename_i k m p ps hfind hparts
      cases hc
      obtain ⟨hmem, rfl⟩ := find?_key_eq_some (key := Prod.fst) hfind
      exact ⟨hmem, p, ps, hparts, rfl⟩
    · cases hc

/-! ### one propagation step, as the composition of two steps (PV/Props/C01.lean) uses it -/

/-- the term of input `o` with gradient entry `a` in `Spec.delta`, its weight taken relative to `ref` -/
noncomputable def dterm (ref : List (Obs ℝ)) (n : String) (c : Int) (a : ℝ) (o : Obs ℝ) : ℝ :=
  if (o.rep? n).isSome = true then a * (Spec.weight ref o n * (o.delta? n c).getD 0) else 0

theorem delta_eq_sum (g : List ℝ) (xs : List (Obs ℝ)) (n : String) (c : Int) :
    Spec.delta g xs n c = ((List.zip g xs).map (fun p => dterm xs n c p.1 p.2)).sum := by
  rw [Spec.delta, sum_eq]
  induction List.zip g xs with
  | nil => rfl
  | cons p l ih =>
    rw [List.filterMap_cons, List.map_cons, List.sum_cons, ← ih, dterm]
    cases h : p.2.rep? n <;> simp [h]

theorem delta_eq_zero {g : List ℝ} {xs : List (Obs ℝ)} {n : String} {c : Int} (hc : c ∉ Spec.unionCfgs xs n) :
    Spec.delta g xs n c = 0 := by
  rw [delta_eq_sum]
  refine List.sum_eq_zero fun t ht => ?_
  obtain ⟨p, hp, rfl⟩ := List.mem_map.mp ht
  have : p.2.delta? n c = none := Obs.delta?_eq_none_of_not_mem_cfgs fun h =>
    hc (Spec.mem_unionCfgs.mpr ⟨p.2, (List.of_mem_zip hp).2, h⟩)
  simp [dterm, this]

structure IsDerived (g : List ℝ) (xs : List (Obs ℝ)) (y : Obs ℝ) : Prop where
  glen : g.length = xs.length
  noClash : NoClash xs
  names : y.names = newSampleNames xs
  cfgs : ∀ n ∈ newSampleNames xs, Spec.cfgs y n = Spec.unionCfgs xs n
  delta : ∀ n ∈ newSampleNames xs, ∀ c, (y.delta? n c).getD 0 = Spec.delta g xs n c

theorem isDerived_of_derivedObs {f : List ℝ → ℝ} {g : List ℝ} {xs : List (Obs ℝ)}
    {covEq : List (List ℝ) → List (List ℝ) → Bool} {y : Obs ℝ}
    (hwf : ∀ x ∈ xs, x.WF = true) (h : derivedObs f g xs covEq = .ok y) : IsDerived g xs y := by
  obtain ⟨hlen, hcl, allcov, _, rfl⟩ := derivedObs_eq_ok.mp h
  have hcfgs : ∀ n ∈ newSampleNames xs, Spec.cfgs (derivedCore f g xs allcov) n = Spec.unionCfgs xs n := fun n hn =>
    (Spec.cfgs_eq (derivedCore_rep? f g allcov hn)).trans (resRep_idl_toList f g hwf n)
  refine ⟨hlen, hcl, derivedCore_names f g xs allcov, hcfgs, fun n hn c => ?_⟩
  by_cases hc : c ∈ Spec.unionCfgs xs n
  · rw [derivedCore_delta? f g allcov hwf hn hc, Option.getD_some]
  · rw [Obs.delta?_eq_none_of_not_mem_cfgs (hcfgs n hn ▸ hc), delta_eq_zero hc, Option.getD_none]

namespace IsDerived
variable {g : List ℝ} {xs : List (Obs ℝ)} {y : Obs ℝ} (hd : IsDerived g xs y) {n : String}
include hd

theorem hasChain : (y.rep? n).isSome = true ↔ n ∈ newSampleNames xs := by rw [Obs.rep?_isSome, hd.names]

theorem inputChain {x : Obs ℝ} (hx : x ∈ xs) (hn : (x.rep? n).isSome = true) : n ∈ newSampleNames xs :=
  hd.noClash.mem_newSampleNames.mpr ⟨x, hx, Obs.rep?_isSome.mp hn⟩

theorem mem_names : n ∈ y.names ↔ ∃ x ∈ xs, n ∈ x.names := by rw [hd.names, hd.noClash.mem_newSampleNames]

theorem mem_cfgs {c : Int} : c ∈ Spec.cfgs y n ↔ ∃ x ∈ xs, c ∈ Spec.cfgs x n := by
  constructor
  · intro h
    exact Spec.mem_unionCfgs.mp (hd.cfgs n (hd.hasChain.mp (Spec.isSome_of_mem_cfgs h)) ▸ h)
  · rintro ⟨x, hx, hc⟩
    rw [hd.cfgs n (hd.inputChain hx (Spec.isSome_of_mem_cfgs hc))]
    exact Spec.mem_unionCfgs.mpr ⟨x, hx, hc⟩

end IsDerived

/-! ### the missing-replica factor `Spec.sigma` -/

theorem mem_chainsOf {names : List String} {e m : String} :
    m ∈ Spec.chainsOf names e ↔ m ∈ names ∧ ((e ++ "|").isPrefixOf m || m == e) = true := by
  unfold Spec.chainsOf; rw [List.mem_filter]

theorem sigma_one_of_cover {xs : List (Obs ℝ)} {o : Obs ℝ} {e : String}
    (hcov : e ∈ o.mcNames → ∀ m ∈ Spec.chainsOf (Spec.allChains xs) e, m ∈ o.names) : Spec.sigma xs o e = 1 := by
  unfold Spec.sigma
  split
  · simp [ofNat_eq_lit, lit_eq]
  · rename_i hin
    replace hcov := hcov (by simpa using hin)
    have hsub : Spec.chainsOf (Spec.allChains xs) e ⊆ Spec.chainsOf o.names e :=
      fun m hm => mem_chainsOf.mpr ⟨hcov m hm, (mem_chainsOf.mp hm).2⟩
    have hle := (List.subperm_of_subset (((pairwise_newSampleNames xs).imp ne_of_lt).filter _) hsub).length_le
    rw [if_neg (by simp only [Bool.and_eq_true, decide_eq_true_eq, not_and, not_lt]; exact fun _ => hle)]
    simp [ofNat_eq_lit, lit_eq]

def lenSum (xs : List (Obs ℝ)) (l : List String) : Nat := (l.map (fun m => (Spec.unionCfgs xs m).length)).sum

theorem lenSum_perm (xs : List (Obs ℝ)) {l l' : List String} (h : l.Perm l') : lenSum xs l = lenSum xs l' :=
  (h.map _).sum_eq

theorem lenSum_congr {xs xs' : List (Obs ℝ)} {l : List String}
    (h : ∀ m ∈ l, Spec.unionCfgs xs m = Spec.unionCfgs xs' m) : lenSum xs l = lenSum xs' l :=
  congrArg List.sum (List.map_congr_left fun m hm => by rw [h m hm])

theorem lenSum_pos_of_mem {xs : List (Obs ℝ)} {l : List String} {m : String} (hm : m ∈ l)
    (hpos : Spec.unionCfgs xs m ≠ []) : 0 < lenSum xs l :=
  (List.length_pos_iff.mpr hpos).trans_le
    (List.single_le_sum (fun _ _ => Nat.zero_le _) _ (List.mem_map.mpr ⟨m, hm, rfl⟩))

end PV
