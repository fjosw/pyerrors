/-
  The matrix algebra behind property C07 (Mathlib only).  Design matrix `A : Matrix ι κ ℝ` (ι = data points,
  κ = parameters), weight matrix `W : Matrix ι ι ℝ` (in `least_squares`: `W = Lᵀ L` with `L` the Cholesky-type factor
  of the inverse covariance, or `diag(1/dy²)`), data `y : ι → ℝ`, and  χ²(q) = (y - A q) ⬝ᵥ W (y - A q).  The index
  types are arbitrary `Fintype`s so that the same χ² serves the plain system (`Fin n`) and the prior-augmented one
  (`Fin n ⊕ Fin k`).
-/
import Mathlib.Data.Matrix.ColumnRowPartitioned
import PV.Proofs.MatrixAlg

namespace PV
open Matrix

namespace C07

section defs
variable {ι κ : Type*} [Fintype ι] [Fintype κ]

def chisq (A : Matrix ι κ ℝ) (W : Matrix ι ι ℝ) (y : ι → ℝ) (q : κ → ℝ) : ℝ :=
  (y - A *ᵥ q) ⬝ᵥ W *ᵥ (y - A *ᵥ q)

/-- ∂χ²/∂q for symmetric `W` (`c07_ift_gradient`) -/
def grad (A : Matrix ι κ ℝ) (W : Matrix ι ι ℝ) (y : ι → ℝ) (q : κ → ℝ) : κ → ℝ :=
  -((2 : ℝ) • ((Aᵀ * W) *ᵥ (y - A *ᵥ q)))

/-- H = ∂²χ²/∂p² for symmetric `W` -/
def hessian (A : Matrix ι κ ℝ) (W : Matrix ι ι ℝ) : Matrix κ κ ℝ :=
  (2 : ℝ) • (Aᵀ * W * A)

/-- M = ∂²χ²/∂p∂y for symmetric `W` -/
def mixed (A : Matrix ι κ ℝ) (W : Matrix ι ι ℝ) : Matrix κ ι ℝ :=
  -((2 : ℝ) • (Aᵀ * W))


theorem grad_eq_zero_iff (A : Matrix ι κ ℝ) (W : Matrix ι ι ℝ) (y : ι → ℝ) (q : κ → ℝ) :
    grad A W y q = 0 ↔ (Aᵀ * W * A) *ᵥ q = (Aᵀ * W) *ᵥ y := by
  unfold grad
  rw [neg_eq_zero, smul_eq_zero_iff_right (two_ne_zero), mulVec_sub, mulVec_mulVec, sub_eq_zero]
  exact eq_comm

theorem chisq_add (A : Matrix ι κ ℝ) (W : Matrix ι ι ℝ) (hW : Wᵀ = W) (y : ι → ℝ)
    (q h : κ → ℝ) :
    chisq A W y (q + h) = chisq A W y q + grad A W y q ⬝ᵥ h + (A *ᵥ h) ⬝ᵥ W *ᵥ (A *ᵥ h) := by
  unfold chisq grad
  have e : y - A *ᵥ (q + h) = (y - A *ᵥ q) - A *ᵥ h := by
    rw [mulVec_add, sub_add_eq_sub_sub]
  -- the cross terms: `r W d = d W r = (AᵀW r) · h` for `r = y - A q`, `d = A h`
  have h2 : (A *ᵥ h) ⬝ᵥ W *ᵥ (y - A *ᵥ q) = ((Aᵀ * W) *ᵥ (y - A *ᵥ q)) ⬝ᵥ h := by
    rw [dotProduct_comm, dotProduct_mulVec, ← mulVec_transpose, mulVec_mulVec]
  rw [e, mulVec_sub, sub_dotProduct, dotProduct_sub, dotProduct_sub, MatrixAlg.bilin_symm hW _ (A *ᵥ h),
    neg_dotProduct, smul_dotProduct, ← h2, smul_eq_mul]
  ring

end defs

/-! ### the instance of the non-vacuity examples: straight-line fit a + b·x at x = 0, 1, 2 with errors 1, 1/2, 1
  (`L = diag(1, 2, 1)`, `W = LᵀL`), data `exY` and GLS solution `exP` -/

def exA : Matrix (Fin 3) (Fin 2) ℝ := !![1, 0; 1, 1; 1, 2]
def exL : Matrix (Fin 3) (Fin 3) ℝ := !![1, 0, 0; 0, 2, 0; 0, 0, 1]
def exW : Matrix (Fin 3) (Fin 3) ℝ := !![1, 0, 0; 0, 4, 0; 0, 0, 1]
def exY : Fin 3 → ℝ := ![1, 0, 2]
noncomputable def exP : Fin 2 → ℝ := ![0, 1 / 2]

theorem exW_eq : exW = exLᵀ * exL := by
  rw [exW, exL, ← diagonal_vec3, ← diagonal_vec3, diagonal_transpose, diagonal_mul_diagonal]
  simp [Fin.forall_fin_succ]
  norm_num

theorem exW_symm : exWᵀ = exW := by
  rw [exW, ← diagonal_vec3, diagonal_transpose]

theorem exNormal : exAᵀ * exW * exA = !![6, 6; 6, 8] := by
  simp [← Matrix.ext_iff, Fin.forall_fin_succ, Matrix.mul_apply, Fin.sum_univ_succ, exW, exA]
  norm_num

theorem exNormal_isUnit : IsUnit (exAᵀ * exW * exA).det := by
  rw [exNormal, Matrix.det_fin_two_of]
  norm_num

theorem exP_solves : (exAᵀ * exW * exA) *ᵥ exP = (exAᵀ * exW) *ᵥ exY := by
  rw [exNormal, funext_iff]
  simp [Fin.forall_fin_succ, exA, exW, exP, exY, Matrix.mulVec, dotProduct, Matrix.mul_apply, Fin.sum_univ_succ]
  norm_num

end C07

open C07

section main
variable {ι κ μ : Type*} [Fintype ι] [Fintype κ] [Fintype μ]

/-- C07 (normal equations ⇔ closed form).  Backs the oracle of the check: the fit result of
    `least_squares` on a linear model is compared with the closed-form GLS estimator
    (AᵀWA)⁻¹ AᵀW y.  Hypothesis: AᵀWA invertible (full column rank of L A). -/
theorem c07_normal_unique [DecidableEq κ] (A : Matrix ι κ ℝ) (W : Matrix ι ι ℝ) (y : ι → ℝ)
    (q : κ → ℝ) (h : IsUnit (Aᵀ * W * A).det) :
    (Aᵀ * W * A) *ᵥ q = (Aᵀ * W) *ᵥ y ↔ q = (Aᵀ * W * A)⁻¹ *ᵥ ((Aᵀ * W) *ᵥ y) :=
  MatrixAlg.mulVec_eq_iff_eq_inv_mulVec h _ _

/-- non-vacuity: the straight-line system has an invertible normal matrix, and `exP` is the
    closed-form solution -/
example : IsUnit (exAᵀ * exW * exA).det ∧
    exP = (exAᵀ * exW * exA)⁻¹ *ᵥ ((exAᵀ * exW) *ᵥ exY) :=
  ⟨exNormal_isUnit, (c07_normal_unique exA exW exY exP exNormal_isUnit).1 exP_solves⟩

/-- C07 (χ² decomposition): χ²(q) = χ²(p̂) + ‖L A (q - p̂)‖² for W = LᵀL.
    Backs: the minimiser found numerically by the library is the GLS estimator, and the excess
    χ² away from it is the quadratic form of the normal matrix.
    No invertibility is needed: any solution p̂ of the normal equations will do. -/
theorem c07_chisq_decomp (A : Matrix ι κ ℝ) (L : Matrix μ ι ℝ) (W : Matrix ι ι ℝ)
    (hW : W = Lᵀ * L) (y : ι → ℝ) (phat : κ → ℝ)
    (hp : (Aᵀ * W * A) *ᵥ phat = (Aᵀ * W) *ᵥ y) (q : κ → ℝ) :
    chisq A W y q
      = chisq A W y phat + ((L * A) *ᵥ (q - phat)) ⬝ᵥ ((L * A) *ᵥ (q - phat)) := by
  have hsymm : Wᵀ = W := hW ▸ MatrixAlg.gram_isSymm L
  have hg : grad A W y phat = 0 := (grad_eq_zero_iff A W y phat).2 hp
  conv_lhs => rw [← add_sub_cancel phat q]
  rw [chisq_add A W hsymm, hg, zero_dotProduct, add_zero, hW, MatrixAlg.gram_quadratic, mulVec_mulVec]

/-- non-vacuity of the hypotheses of `c07_chisq_decomp` -/
example : exW = exLᵀ * exL ∧ (exAᵀ * exW * exA) *ᵥ exP = (exAᵀ * exW) *ᵥ exY :=
  ⟨exW_eq, exP_solves⟩

/-- C07 (minimiser): with W = LᵀL (symmetric positive semidefinite), every solution p̂ of the normal
    equations is a global minimiser of χ².  Backs: what the library's iterative minimiser
    converges to is the closed-form estimator. -/
theorem c07_minimiser (A : Matrix ι κ ℝ) (L : Matrix μ ι ℝ) (W : Matrix ι ι ℝ)
    (hW : W = Lᵀ * L) (y : ι → ℝ) (phat : κ → ℝ)
    (hp : (Aᵀ * W * A) *ᵥ phat = (Aᵀ * W) *ᵥ y) (q : κ → ℝ) :
    chisq A W y phat ≤ chisq A W y q := by
  rw [c07_chisq_decomp A L W hW y phat hp q]
  exact le_add_of_nonneg_right (MatrixAlg.dotProduct_self_nonneg' _)

/-- non-vacuity of the hypotheses of `c07_minimiser` (same as for the decomposition) -/
example : exW = exLᵀ * exL ∧ (exAᵀ * exW * exA) *ᵥ exP = (exAᵀ * exW) *ᵥ exY :=
  ⟨exW_eq, exP_solves⟩

/-- C07 (implicit-function formula, linear model): the library propagates errors through the fit
    with dp/dy = -H⁻¹ M, H = ∂²χ²/∂p², M = ∂²χ²/∂p∂y.  For the linear model H = 2AᵀWA
    (`C07.hessian`) and M = -2AᵀW (`C07.mixed`), and then -H⁻¹ M is the GLS sensitivity matrix
    S = (AᵀWA)⁻¹ AᵀW.  (Symmetry of W is what makes `hessian` and `mixed` the actual second
    derivatives — see `c07_ift_gradient` — but is not needed for this algebraic identity.) -/
theorem c07_ift_linear [DecidableEq κ] (A : Matrix ι κ ℝ) (W : Matrix ι ι ℝ)
    (h : IsUnit (Aᵀ * W * A).det) :
    -(hessian A W)⁻¹ * mixed A W = (Aᵀ * W * A)⁻¹ * (Aᵀ * W) := by
  unfold hessian mixed
  have : Invertible (2 : ℝ) := invertibleOfNonzero two_ne_zero
  rw [Matrix.inv_smul _ (2 : ℝ) h, Matrix.neg_mul, Matrix.mul_neg, neg_neg, Matrix.smul_mul, Matrix.mul_smul, smul_smul,
    invOf_mul_self, one_smul]

/-- non-vacuity: the straight-line system satisfies the hypothesis of `c07_ift_linear` -/
example : IsUnit (exAᵀ * exW * exA).det := exNormal_isUnit

/-- C07 (`C07.grad` really is the gradient, for symmetric W): the part of the increment of χ² linear
    in h is g ⬝ᵥ h and the remainder is purely quadratic, ½ hᵀ H h with H = 2AᵀWA
    (`c07_ift_quadratic`). -/
theorem c07_ift_gradient (A : Matrix ι κ ℝ) (W : Matrix ι ι ℝ) (hW : Wᵀ = W) (y : ι → ℝ)
    (q h : κ → ℝ) :
    chisq A W y (q + h) - chisq A W y q
      = grad A W y q ⬝ᵥ h + (A *ᵥ h) ⬝ᵥ W *ᵥ (A *ᵥ h) := by
  rw [chisq_add A W hW]; ring

/-- non-vacuity: the weight matrix of the straight-line system is symmetric -/
example : exWᵀ = exW := exW_symm

/-- C07 (the quadratic remainder of `c07_ift_gradient` is ½ hᵀ H h). -/
theorem c07_ift_quadratic (A : Matrix ι κ ℝ) (W : Matrix ι ι ℝ) (h : κ → ℝ) :
    (A *ᵥ h) ⬝ᵥ W *ᵥ (A *ᵥ h) = (1 / 2 : ℝ) * (h ⬝ᵥ hessian A W *ᵥ h) := by
  rw [hessian, smul_mulVec, dotProduct_smul, smul_eq_mul, MatrixAlg.bilin_conj]
  ring

/-- C07 (the gradient is linear in (q, y) with coefficient matrices H and M): hence
    ∂g/∂q = H = 2AᵀWA and ∂g/∂y = M = -2AᵀW. -/
theorem c07_ift_grad_affine (A : Matrix ι κ ℝ) (W : Matrix ι ι ℝ) (y : ι → ℝ) (q : κ → ℝ) :
    grad A W y q = hessian A W *ᵥ q + mixed A W *ᵥ y := by
  unfold grad hessian mixed
  rw [mulVec_sub, mulVec_mulVec, smul_sub, neg_sub, smul_mulVec, neg_mulVec, smul_mulVec]
  abel

/-- C07 (increment form of the same fact). -/
theorem c07_ift_grad_increment (A : Matrix ι κ ℝ) (W : Matrix ι ι ℝ) (y dy : ι → ℝ)
    (q dq : κ → ℝ) :
    grad A W (y + dy) (q + dq) = grad A W y q + hessian A W *ᵥ dq + mixed A W *ᵥ dy := by
  rw [c07_ift_grad_affine, c07_ift_grad_affine, mulVec_add, mulVec_add]
  abel

/-- C07 (stationarity ⇔ implicit-function solution): with AᵀWA invertible, the implicit function
    defined by g(p̂(y), y) = 0 is the linear map with matrix -H⁻¹ M = S, so the derivative the
    library computes is exact. -/
theorem c07_ift_stationary [DecidableEq κ] (A : Matrix ι κ ℝ) (W : Matrix ι ι ℝ) (y : ι → ℝ)
    (q : κ → ℝ) (h : IsUnit (Aᵀ * W * A).det) :
    grad A W y q = 0 ↔ q = (-(hessian A W)⁻¹ * mixed A W) *ᵥ y := by
  rw [grad_eq_zero_iff, c07_normal_unique A W y q h, c07_ift_linear A W h, mulVec_mulVec]

/-- non-vacuity: hypothesis of `c07_ift_stationary` holds for the straight-line system, and `exP`
    is the stationary point -/
example : IsUnit (exAᵀ * exW * exA).det ∧ grad exA exW exY exP = 0 :=
  ⟨exNormal_isUnit, (grad_eq_zero_iff exA exW exY exP).2 exP_solves⟩

section perm
variable {ι' : Type*} [Fintype ι']

omit [Fintype κ] in
/-- C07 (row permutation, normal matrix AᵀWA). -/
theorem c07_row_perm_normal (A : Matrix ι κ ℝ) (W : Matrix ι ι ℝ) (σ : ι' ≃ ι) :
    (A.submatrix σ id)ᵀ * W.submatrix σ σ * A.submatrix σ id = Aᵀ * W * A := by
  rw [transpose_submatrix, submatrix_mul_equiv, submatrix_mul_equiv, submatrix_id_id]

omit [Fintype κ] in
/-- C07 (row permutation, right-hand side AᵀW y). -/
theorem c07_row_perm_rhs (A : Matrix ι κ ℝ) (W : Matrix ι ι ℝ) (y : ι → ℝ) (σ : ι' ≃ ι) :
    ((A.submatrix σ id)ᵀ * W.submatrix σ σ) *ᵥ (y ∘ σ) = (Aᵀ * W) *ᵥ y := by
  rw [transpose_submatrix, submatrix_mul_equiv, submatrix_mulVec_equiv]
  ext i
  simp [Function.comp_assoc]

/-- C07 (row permutation, χ²). -/
theorem c07_row_perm_chisq (A : Matrix ι κ ℝ) (W : Matrix ι ι ℝ) (y : ι → ℝ) (σ : ι' ≃ ι)
    (q : κ → ℝ) :
    chisq (A.submatrix σ id) (W.submatrix σ σ) (y ∘ σ) q = chisq A W y q := by
  unfold chisq
  have e : y ∘ σ - A.submatrix σ id *ᵥ q = (y - A *ᵥ q) ∘ σ := rfl
  rw [e, submatrix_mulVec_equiv, Function.comp_assoc, Equiv.self_comp_symm, Function.comp_id]
  exact Equiv.sum_comp σ (fun i => (y - A *ᵥ q) i * (W *ᵥ (y - A *ᵥ q)) i)

/-- C07 (row permutation): permuting the data points — rows of A, entries of y, rows and columns of W
    by the same permutation σ — leaves the normal matrix AᵀWA, the right-hand side AᵀW y and χ²(q)
    unchanged.  Backs: the fit result does not depend on the order in which the data points are
    passed.  (The component lemmas `c07_row_perm_normal`, `_rhs`, `_chisq` hold more generally for a
    bijection from another index type.) -/
theorem c07_row_perm (A : Matrix ι κ ℝ) (W : Matrix ι ι ℝ) (y : ι → ℝ) (σ : Equiv.Perm ι)
    (q : κ → ℝ) :
    (A.submatrix σ id)ᵀ * W.submatrix σ σ * A.submatrix σ id = Aᵀ * W * A ∧
    ((A.submatrix σ id)ᵀ * W.submatrix σ σ) *ᵥ (y ∘ σ) = (Aᵀ * W) *ᵥ y ∧
    chisq (A.submatrix σ id) (W.submatrix σ σ) (y ∘ σ) q = chisq A W y q :=
  ⟨c07_row_perm_normal A W σ, c07_row_perm_rhs A W y σ, c07_row_perm_chisq A W y σ q⟩

/-- concrete instance: exchanging the first and the last data point of the straight-line system -/
example (q : Fin 2 → ℝ) :
    chisq (exA.submatrix (Equiv.swap 0 2) id) (exW.submatrix (Equiv.swap 0 2) (Equiv.swap 0 2))
      (exY ∘ Equiv.swap 0 2) q = chisq exA exW exY q :=
  (c07_row_perm exA exW exY (Equiv.swap 0 2) q).2.2

end perm

section priors
variable {ρ : Type*} [Fintype ρ]

/-- C07 (priors = augmented system): with prior rows B (in the code: selector rows picking the
    constrained parameters), prior means m and prior weight matrix Wp (in the code: diag(1/σ²)),
    χ²(q) plus the prior term is the χ² of the augmented system.  Holds for arbitrary B and Wp (no
    selector/diagonal assumption needed).  Backs: a fit with priors is compared against the
    closed-form GLS estimator of the augmented system. -/
theorem c07_priors_augment (A : Matrix ι κ ℝ) (W : Matrix ι ι ℝ) (y : ι → ℝ)
    (B : Matrix ρ κ ℝ) (Wp : Matrix ρ ρ ℝ) (m : ρ → ℝ) (q : κ → ℝ) :
    chisq A W y q + (m - B *ᵥ q) ⬝ᵥ Wp *ᵥ (m - B *ᵥ q)
      = chisq (fromRows A B) (fromBlocks W 0 0 Wp) (Sum.elim y m) q := by
  unfold chisq
  have e : Sum.elim y m - fromRows A B *ᵥ q = Sum.elim (y - A *ᵥ q) (m - B *ᵥ q) := by
    rw [fromRows_mulVec]
    ext i
    cases i <;> simp
  rw [e, fromBlocks_mulVec, sumElim_dotProduct_sumElim]
  simp only [zero_mulVec, add_zero, zero_add, Sum.elim_comp_inl, Sum.elim_comp_inr]

/-- concrete instance of the prior-augmented system: a prior on the slope (selector row (0 1),
    mean 1, σ = 1/2 so weight 4) added to the straight-line system -/
example (q : Fin 2 → ℝ) :
    chisq exA exW exY q + ((![1] : Fin 1 → ℝ) - !![0, 1] *ᵥ q) ⬝ᵥ
        (Matrix.diagonal ![4]) *ᵥ ((![1] : Fin 1 → ℝ) - !![0, 1] *ᵥ q)
      = chisq (fromRows exA !![0, 1]) (fromBlocks exW 0 0 (Matrix.diagonal ![4]))
          (Sum.elim exY ![1]) q :=
  c07_priors_augment exA exW exY _ _ _ q

end priors

end main

/-- C07 (degrees of freedom): (points + priors) - parameters in natural-number (truncated)
    subtraction equals points - parameters + priors as integers, PROVIDED points + priors ≥
    parameters (otherwise the Nat subtraction truncates to 0 and the identity fails).  Backs:
    `output.dof = y_all.shape[-1] - n_parms + len(loc_priors)` in `least_squares`. -/
theorem c07_dof (points priors params : ℕ) (h : params ≤ points + priors) :
    ((points + priors - params : ℕ) : ℤ) = (points : ℤ) - (params : ℤ) + (priors : ℤ) := by
  omega

/-- non-vacuity: 3 points, 1 prior, 2 parameters -/
example : (2 : ℕ) ≤ 3 + 1 := by norm_num

/-- the hypothesis of `c07_dof` cannot be dropped: 0 points, 0 priors, 1 parameter -/
example : ((0 + 0 - 1 : ℕ) : ℤ) ≠ (0 : ℤ) - (1 : ℤ) + (0 : ℤ) := by norm_num

end PV
