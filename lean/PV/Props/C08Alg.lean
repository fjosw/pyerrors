/-
  The mathematics behind property C08 (Mathlib only): the identities behind `pyerrors.fits.least_squares` /
  `total_least_squares`:

    * the fit parameters p*(y) are defined implicitly by the stationarity condition
      ∇_p χ²(p*(y), y) = 0; differentiating gives  H · ∂p*/∂y + M = 0  with
      H = ∂²χ²/∂p∂p (Hessian) and M = ∂²χ²/∂p∂y (mixed second derivatives);
    * the library computes ∂p*/∂y = -H⁻¹ M (`deriv_y = -scipy.linalg.solve(hess, jac_jac_y[...])`);
    * the total-least-squares code does the same for the concatenated unknown (p, x̂) and slices the
      mixed block out of one big matrix of second derivatives.
-/
import Mathlib.Analysis.Calculus.Deriv.Prod
import Mathlib.Analysis.Calculus.Deriv.Comp
import Mathlib.Analysis.Calculus.Deriv.Mul
import PV.Proofs.MatrixAlg

namespace PV.C08

open Matrix Filter Topology

theorem ift_alg_gen {ι κ : Type*} [Fintype ι] [DecidableEq ι]
    (H : Matrix ι ι ℝ) (hH : IsUnit H.det) (M X : Matrix ι κ ℝ) :
    H * X + M = 0 ↔ X = -H⁻¹ * M := by
  rw [add_eq_zero_iff_eq_neg, MatrixAlg.mul_eq_iff_eq_inv_mul hH, Matrix.mul_neg, Matrix.neg_mul]

/-- C08.1 (implicit-function rule, algebraic core), for invertible `H`.
    Backs: differentiating the stationarity condition ∇_p χ²(p(y), y) = 0 w.r.t. the data gives
    `H X + M = 0` for the sensitivity `X = ∂p/∂y`; the library computes `X = -H⁻¹ M`
    (`-scipy.linalg.solve(hess, jac_jac)`), which is therefore the unique solution. -/
theorem _root_.PV.c08_ift_alg {p n : ℕ} (H : Matrix (Fin p) (Fin p) ℝ) (hH : IsUnit H.det)
    (M X : Matrix (Fin p) (Fin n) ℝ) :
    H * X + M = 0 ↔ X = -H⁻¹ * M :=
  ift_alg_gen H hH M X

/-- Non-vacuity of `c08_ift_alg`: `H = !![2, 1; 1, 3]` has determinant 5, a unit of ℝ. -/
example : IsUnit (!![2, 1; 1, 3] : Matrix (Fin 2) (Fin 2) ℝ).det := by
  rw [Matrix.det_fin_two_of]; norm_num

/-- `p' * ∂F/∂p + ∂F/∂y = 0` with `∂F/∂p = F' (1, 0)` and `∂F/∂y = F' (0, 1)`: the chain rule along
    `y ↦ (p y, y)`, where the composite is eventually the constant 0. -/
theorem ift_1d_chain (F : ℝ → ℝ → ℝ) (p : ℝ → ℝ) (y0 p' : ℝ) (F' : ℝ × ℝ →L[ℝ] ℝ)
    (hF : HasFDerivAt (fun q : ℝ × ℝ => F q.1 q.2) F' (p y0, y0))
    (hp : HasDerivAt p p' y0)
    (hzero : ∀ᶠ y in 𝓝 y0, F (p y) y = 0) :
    p' * F' (1, 0) + F' (0, 1) = 0 := by
  have hcomp : HasDerivAt (fun y : ℝ => F (p y) y) (F' (p', 1)) y0 :=
    hF.comp_hasDerivAt (f := fun y => (p y, y)) y0 (hp.prodMk (hasDerivAt_id y0))
  have h0 : F' (p', 1) = 0 := hcomp.unique ((hasDerivAt_const y0 (0 : ℝ)).congr_of_eventuallyEq hzero)
  have hsplit : ((p', 1) : ℝ × ℝ) = p' • ((1, 0) : ℝ × ℝ) + ((0, 1) : ℝ × ℝ) := by simp
  rwa [hsplit, F'.map_add, F'.map_smul, smul_eq_mul] at h0

/-- C08.2 (implicit-function rule, one parameter, analytic form): `deriv p y0 = -Fy / Fp`, where
    `Fp = F' (1, 0)` and `Fy = F' (0, 1)` are the partial derivatives of `(p, y) ↦ F p y` at
    `(p0, y0)` and `F (p y) y = 0` near `y0`.
    Backs: for a one-parameter fit, `F = ∂χ²/∂p`, `Fp` = Hessian, `Fy` = mixed second derivative,
    and the propagated derivative of the fit parameter w.r.t. a data point is `-Fy / Fp`
    (chain rule on the identity F(p(y), y) = 0).  Explicit hypotheses: differentiability of `p`
    at `y0` (not derived here - no smoothness of `F` around the point is assumed) and `Fp ≠ 0`. -/
theorem _root_.PV.c08_ift_1d (F : ℝ → ℝ → ℝ) (p : ℝ → ℝ) (p0 y0 : ℝ) (F' : ℝ × ℝ →L[ℝ] ℝ)
    (hF : HasFDerivAt (fun q : ℝ × ℝ => F q.1 q.2) F' (p0, y0))
    (hFp : F' (1, 0) ≠ 0)
    (hp : DifferentiableAt ℝ p y0) (hp0 : p y0 = p0)
    (hzero : ∀ᶠ y in 𝓝 y0, F (p y) y = 0) :
    deriv p y0 = -F' (0, 1) / F' (1, 0) := by
  subst hp0
  have h := ift_1d_chain F p y0 (deriv p y0) F' hF hp.hasDerivAt hzero
  rw [eq_div_iff hFp]
  linarith

/-- Non-vacuity of `c08_ift_1d`: `F p y = 2 p - y` (stationarity of χ² = (p - y/2)²·const),
    `p y = y / 2`, at `y0 = 1`, `p0 = 1/2`; `F' = 2·fst - snd`, so `Fp = 2 ≠ 0`, `Fy = -1`,
    and the theorem yields `deriv p 1 = 1/2`. -/
example : deriv (fun y : ℝ => y / 2) 1 = 1 / 2 := by
  have hF : HasFDerivAt (fun q : ℝ × ℝ => (fun a b : ℝ => 2 * a - b) q.1 q.2)
      ((2 : ℝ) • ContinuousLinearMap.fst ℝ ℝ ℝ - ContinuousLinearMap.snd ℝ ℝ ℝ)
      ((1 / 2 : ℝ), (1 : ℝ)) :=
    -- `F` is linear, so it is its own derivative
    ((2 : ℝ) • ContinuousLinearMap.fst ℝ ℝ ℝ - ContinuousLinearMap.snd ℝ ℝ ℝ).hasFDerivAt
  have hp : DifferentiableAt ℝ (fun y : ℝ => y / 2) 1 := by fun_prop
  have h := c08_ift_1d (fun a b : ℝ => 2 * a - b) (fun y : ℝ => y / 2) (1 / 2) 1 _ hF
    (by simp) hp (by norm_num) (Eventually.of_forall (fun y => by ring))
  rw [h]
  simp

/-- the stationary point `p*(y)` of `chisqQuad` (`c08_stationary_shift`) -/
noncomputable def pstar {p n : ℕ} (H : Matrix (Fin p) (Fin p) ℝ) (M : Matrix (Fin p) (Fin n) ℝ)
    (y : Fin n → ℝ) : Fin p → ℝ :=
  (-H⁻¹ * M) *ᵥ y

noncomputable def chisqQuad {p n : ℕ} (H : Matrix (Fin p) (Fin p) ℝ) (M : Matrix (Fin p) (Fin n) ℝ)
    (c : (Fin n → ℝ) → ℝ) (q : Fin p → ℝ) (y : Fin n → ℝ) : ℝ :=
  (1 / 2) * (q ⬝ᵥ H *ᵥ q) + q ⬝ᵥ M *ᵥ y + c y

/-- C08.3 (first-order prediction is exact in the quadratic model).  For the quadratic model
    `χ²(p, y) = ½ pᵀ H p + pᵀ M y + c(y)` (`chisqQuad`) with `H` invertible, whose `p`-gradient is
    `H p + M y` when `H` is symmetric: `p*(y) = -(H⁻¹ M) y` is stationary, it is the only stationary
    point, and a data shift δ moves it by exactly `-(H⁻¹ M) δ`.
    Symmetry of `H` is not needed for these; it is only needed to identify `H p + M y` with the
    gradient and for the minimiser statement, see `quad_complete_square` below.
    Backs: the propagated shift of fit parameters under a data shift δ is `-H⁻¹ M δ`, the quantity
    the property check compares a re-fit against. -/
theorem _root_.PV.c08_stationary_shift {p n : ℕ} (H : Matrix (Fin p) (Fin p) ℝ) (hH : IsUnit H.det)
    (M : Matrix (Fin p) (Fin n) ℝ) (y δ : Fin n → ℝ) :
    H *ᵥ pstar H M y + M *ᵥ y = 0 ∧
    pstar H M (y + δ) - pstar H M y = (-H⁻¹ * M) *ᵥ δ ∧
    ∀ q : Fin p → ℝ, H *ᵥ q + M *ᵥ y = 0 → q = pstar H M y := by
  have key : ∀ q : Fin p → ℝ, H *ᵥ q + M *ᵥ y = 0 ↔ q = pstar H M y := fun q => by
    rw [add_eq_zero_iff_eq_neg, MatrixAlg.mulVec_eq_iff_eq_inv_mulVec hH, pstar, mulVec_neg, Matrix.neg_mul,
      neg_mulVec, mulVec_mulVec]
  exact ⟨(key _).2 rfl, by rw [pstar, pstar, mulVec_add, add_sub_cancel_left], fun q => (key q).1⟩

/-- Non-vacuity of `c08_stationary_shift`: same invertible `H` as above. -/
example : ∃ H : Matrix (Fin 2) (Fin 2) ℝ, IsUnit H.det ∧ H.IsSymm :=
  ⟨!![2, 1; 1, 3], by rw [Matrix.det_fin_two_of]; norm_num, MatrixAlg.transpose_fin_two 2 1 1 3⟩

/-- Complement to C08.3 (completing the square): hence, for symmetric `H`, `H p + M y = 0` really is
    the stationarity condition of the quadratic model, and `p*(y)` is the minimiser whenever `H` is
    positive semidefinite (`quad_pstar_isMin`). -/
theorem quad_complete_square {p n : ℕ} (H : Matrix (Fin p) (Fin p) ℝ) (hs : H.IsSymm)
    (M : Matrix (Fin p) (Fin n) ℝ) (c : (Fin n → ℝ) → ℝ) (y : Fin n → ℝ) (p₀ q : Fin p → ℝ)
    (hstat : H *ᵥ p₀ + M *ᵥ y = 0) :
    chisqQuad H M c q y - chisqQuad H M c p₀ y = (1 / 2) * ((q - p₀) ⬝ᵥ H *ᵥ (q - p₀)) := by
  have hMy : M *ᵥ y = -(H *ᵥ p₀) := eq_neg_of_add_eq_zero_right hstat
  have hsym : p₀ ⬝ᵥ H *ᵥ q = q ⬝ᵥ H *ᵥ p₀ := MatrixAlg.bilin_symm hs.eq p₀ q
  unfold chisqQuad
  rw [hMy]
  simp only [Matrix.mulVec_sub, sub_dotProduct, dotProduct_sub, dotProduct_neg, hsym]
  ring

theorem quad_pstar_isMin {p n : ℕ} (H : Matrix (Fin p) (Fin p) ℝ) (hs : H.IsSymm)
    (hH : IsUnit H.det) (hpsd : ∀ d : Fin p → ℝ, 0 ≤ d ⬝ᵥ H *ᵥ d)
    (M : Matrix (Fin p) (Fin n) ℝ) (c : (Fin n → ℝ) → ℝ) (y : Fin n → ℝ) (q : Fin p → ℝ) :
    chisqQuad H M c (pstar H M y) y ≤ chisqQuad H M c q y := by
  have h := quad_complete_square H hs M c y (pstar H M y) q
    (c08_stationary_shift H hH M y 0).1
  have h2 := hpsd (q - pstar H M y)
  linarith

/-- the slice `J[:a, a:]` -/
def sliceUR {a b : ℕ} (J : Matrix (Fin (a + b)) (Fin (a + b)) ℝ) : Matrix (Fin a) (Fin b) ℝ :=
  J.submatrix (Fin.castAdd b) (Fin.natAdd a)

/-- the slice `J[:a, :a]` -/
def sliceUL {a b : ℕ} (J : Matrix (Fin (a + b)) (Fin (a + b)) ℝ) : Matrix (Fin a) (Fin a) ℝ :=
  J.submatrix (Fin.castAdd b) (Fin.castAdd b)

def asBlocks {a b : ℕ} (J : Matrix (Fin (a + b)) (Fin (a + b)) ℝ) :
    Matrix (Fin a ⊕ Fin b) (Fin a ⊕ Fin b) ℝ :=
  J.submatrix finSumFinEquiv finSumFinEquiv

theorem sliceUR_apply {a b : ℕ} (J : Matrix (Fin (a + b)) (Fin (a + b)) ℝ) (i : Fin a) (j : Fin b) :
    sliceUR J i j = J ⟨i.1, by omega⟩ ⟨a + j.1, by omega⟩ := rfl

theorem sliceUL_apply {a b : ℕ} (J : Matrix (Fin (a + b)) (Fin (a + b)) ℝ) (i k : Fin a) :
    sliceUL J i k = J ⟨i.1, by omega⟩ ⟨k.1, by omega⟩ := rfl

/-- C08.4 (index arithmetic of `total_least_squares`).  In the code `J` is the matrix of second
    derivatives of the ODR χ² w.r.t. the concatenation (p, x̂, data): `a = n_parms + m` unknowns, `b`
    data entries.  The code's slice `J[:a, a:]` (entry `(i,j)` is `J[i, a+j]`, see `sliceUR_apply`) is
    exactly the upper-right block of `J` viewed as a block matrix over `Fin a ⊕ Fin b`, and
    `J[:a, :a]` the upper-left one; and if the upper-left block (the Hessian w.r.t. the unknowns) is
    invertible, the sensitivity `X` of the unknowns w.r.t. the data, defined by `UL · X + UR = 0`,
    is `-UL⁻¹ · UR`: what `-scipy.linalg.solve(hess, jac_jac[:a, a:])` computes (instance of
    `c08_ift_alg`). -/
theorem _root_.PV.c08_block_slices {a b : ℕ} (J : Matrix (Fin (a + b)) (Fin (a + b)) ℝ) :
    sliceUR J = (asBlocks J).toBlocks₁₂ ∧
    sliceUL J = (asBlocks J).toBlocks₁₁ ∧
    asBlocks J = Matrix.fromBlocks (sliceUL J) (sliceUR J)
      (J.submatrix (Fin.natAdd a) (Fin.castAdd b)) (J.submatrix (Fin.natAdd a) (Fin.natAdd a)) ∧
    (IsUnit (sliceUL J).det →
      ∀ X : Matrix (Fin a) (Fin b) ℝ,
        sliceUL J * X + sliceUR J = 0 ↔ X = -(sliceUL J)⁻¹ * sliceUR J) :=
  -- `finSumFinEquiv` is `Fin.castAdd` on the left summand and `Fin.natAdd` on the right one by definition
  ⟨rfl, rfl, (fromBlocks_toBlocks (asBlocks J)).symm, fun h X => c08_ift_alg (sliceUL J) h (sliceUR J) X⟩

/-- Non-vacuity of the last conjunct of `c08_block_slices`: a 3×3 matrix (`a = 2`, `b = 1`) whose upper-left
    2×2 slice is `!![2, 1; 1, 3]`, with determinant 5. -/
example : IsUnit (sliceUL (a := 2) (b := 1) (!![2, 1, 7; 1, 3, 8; 4, 5, 6] : Matrix (Fin 3) (Fin 3) ℝ)).det := by
  have : sliceUL (a := 2) (b := 1) (!![2, 1, 7; 1, 3, 8; 4, 5, 6] : Matrix (Fin 3) (Fin 3) ℝ)
      = !![2, 1; 1, 3] := Matrix.eta_fin_two _
  rw [this, Matrix.det_fin_two_of]; norm_num

def xres {m : ℕ} (wx x xh : Fin m → ℝ) : ℝ :=
  ∑ i, wx i * (x i - xh i) ^ 2

/-- `odr_chisquare` of `total_least_squares` at fixed parameters, `wy = 1/dy²`, `wx = 1/dx²` -/
def tls {m : ℕ} (f : ℝ → ℝ) (wx wy x y xh : Fin m → ℝ) : ℝ :=
  ∑ i, wy i * (y i - f (xh i)) ^ 2 + xres wx x xh

def ols {m : ℕ} (f : ℝ → ℝ) (wy x y : Fin m → ℝ) : ℝ :=
  ∑ i, wy i * (y i - f (x i)) ^ 2

/-- C08.5a: with the x residuals forced to zero (`x̂ = x`) the TLS objective is the ordinary one.
    Backs: the TLS fit degenerates to the ordinary fit when x carries no error. -/
theorem _root_.PV.c08_tls_at_data {m : ℕ} (f : ℝ → ℝ) (wx wy x y : Fin m → ℝ) :
    tls f wx wy x y x = ols f wy x y := by
  simp only [tls, ols, xres, sub_self, ne_eq, OfNat.ofNat_ne_zero, not_false_eq_true, zero_pow, mul_zero,
    Finset.sum_const_zero, add_zero]

/-- C08.5b: for nonnegative weights, `TLS(x̂) ≥ Σ wx (x - x̂)² ≥ 0` for every `x̂` and every `f`. -/
theorem _root_.PV.c08_tls_lower {m : ℕ} (f : ℝ → ℝ) (wx wy x y xh : Fin m → ℝ)
    (hwx : ∀ i, 0 ≤ wx i) (hwy : ∀ i, 0 ≤ wy i) :
    0 ≤ xres wx x xh ∧ xres wx x xh ≤ tls f wx wy x y xh := by
  constructor
  · exact Finset.sum_nonneg fun i _ => mul_nonneg (hwx i) (sq_nonneg _)
  · have : 0 ≤ ∑ i, wy i * (y i - f (xh i)) ^ 2 :=
      Finset.sum_nonneg fun i _ => mul_nonneg (hwy i) (sq_nonneg _)
    unfold tls
    linarith

/-- Non-vacuity of `c08_tls_lower`. -/
example : (∀ i : Fin 2, (0 : ℝ) ≤ (fun _ => (3 : ℝ)) i) := fun _ => by norm_num

/-- C08.5 (large x-weights force small x residuals).  For any model family `f : P → ℝ → ℝ` and
    `(ps, xs)` a minimiser of the TLS objective in the weak sense actually needed,
    `TLS(ps, xs) ≤ TLS(q, x)` for the comparison parameter `q` at `x̂ = x` (true for every `q` if
    `(ps, xs)` is a global minimiser, `tls_limit_global`): `Σ (x - xs)² ≤ OLS(q) / wmin`.  With
    `q = p_ols` the bound tends to 0 as `wmin → ∞`: the TLS solution's x̂ converges to the data x,
    i.e. TLS approaches the ordinary fit. -/
theorem _root_.PV.c08_tls_limit {m : ℕ} {P : Type*} (f : P → ℝ → ℝ) (wx wy x y : Fin m → ℝ) (wmin : ℝ)
    (hwy : ∀ i, 0 ≤ wy i) (hwmin : 0 < wmin) (hwx : ∀ i, wmin ≤ wx i)
    (ps : P) (xs : Fin m → ℝ) (q : P)
    (hmin : tls (f ps) wx wy x y xs ≤ tls (f q) wx wy x y x) :
    ∑ i, (x i - xs i) ^ 2 ≤ ols (f q) wy x y / wmin := by
  have hwx0 : ∀ i, 0 ≤ wx i := fun i => le_trans hwmin.le (hwx i)
  have h1 := (c08_tls_lower (f ps) wx wy x y xs hwx0 hwy).2
  have h2 : wmin * ∑ i, (x i - xs i) ^ 2 ≤ xres wx x xs := by
    unfold xres
    rw [Finset.mul_sum]
    exact Finset.sum_le_sum fun i _ => mul_le_mul_of_nonneg_right (hwx i) (sq_nonneg _)
  rw [c08_tls_at_data] at hmin
  rw [le_div_iff₀ hwmin]
  linarith

theorem tls_limit_global {m : ℕ} {P : Type*} (f : P → ℝ → ℝ) (wx wy x y : Fin m → ℝ) (wmin : ℝ)
    (hwy : ∀ i, 0 ≤ wy i) (hwmin : 0 < wmin) (hwx : ∀ i, wmin ≤ wx i)
    (ps : P) (xs : Fin m → ℝ)
    (hmin : ∀ (q : P) (xh : Fin m → ℝ), tls (f ps) wx wy x y xs ≤ tls (f q) wx wy x y xh) (q : P) :
    ∑ i, (x i - xs i) ^ 2 ≤ ols (f q) wy x y / wmin :=
  c08_tls_limit f wx wy x y wmin hwy hwmin hwx ps xs q (hmin q x)

/-- Non-vacuity of `c08_tls_limit`: constant model family `f q _ = q` on one data point
    `x = 0, y = 1`, weights `wx = wy = 1`, `wmin = 1`; `(ps, xs) = (1, 0)` has TLS = 0, which is
    ≤ TLS of anything (here compared with `q = 0`). -/
example : ∃ (f : ℝ → ℝ → ℝ) (wx wy x y : Fin 1 → ℝ) (wmin : ℝ) (ps : ℝ) (xs : Fin 1 → ℝ) (q : ℝ),
    (∀ i, 0 ≤ wy i) ∧ 0 < wmin ∧ (∀ i, wmin ≤ wx i) ∧
    tls (f ps) wx wy x y xs ≤ tls (f q) wx wy x y x :=
  ⟨fun q _ => q, fun _ => 1, fun _ => 1, fun _ => 0, fun _ => 1, 1, 1, fun _ => 0, 0,
    fun _ => by norm_num, by norm_num, fun _ => le_refl _, by simp [tls, xres]⟩

end PV.C08
