/-
  The pobs format (PV/Model/Pobs.lean).  For every element type: strided slicing of a flattened table of rows returns
  its columns, so reading a written block returns the configuration numbers and the sample columns.  At ℝ: the
  constructor rebuilds a single-ensemble observable from the samples of its chains, hence `readWith fix` undoes `write`.
-/
import PV.Model.Pobs
import PV.Model.Combine
import PV.Proofs.MkObs
import PV.Proofs.RealScalar

namespace PV.Pobs
open Scalar

theorem strideF_flatten {β : Type} {w a : Nat} (ha : a < w) {rows : List (List β)} (hw : ∀ r ∈ rows, r.length = w)
    {fuel : Nat} (hf : rows.flatten.length < fuel) : strideF fuel w a rows.flatten = rows.filterMap (·[a]?) := by
  induction rows generalizing fuel with
  | nil => cases fuel <;> simp [strideF]
  | cons r rs ih =>
    obtain ⟨rfl, hrs⟩ := List.forall_mem_cons.mp hw
    rw [List.flatten_cons, List.length_append] at hf
    cases fuel with
    | zero => cases hf
    | succ f =>
      rw [strideF, List.flatten_cons, List.drop_append_of_le_length ha.le, List.drop_eq_getElem_cons ha, List.drop_left,
        List.filterMap_cons, List.getElem?_eq_getElem ha]
      exact congrArg _ (ih hrs (by omega))

theorem stride_flatten {β : Type} {w a : Nat} (ha : a < w) {rows : List (List β)} (hw : ∀ r ∈ rows, r.length = w) :
    stride w a rows.flatten = rows.filterMap (·[a]?) :=
  strideF_flatten ha hw (Nat.lt_succ_self _)

variable {α : Type} [Scalar α]

theorem rowsOf_width (idl : List Int) (cols : List (List α)) : ∀ r ∈ rowsOf idl cols, r.length = cols.length + 1 := by
  induction idl generalizing cols with
  | nil => exact fun r hr => nomatch hr
  | cons c cs ih =>
    rw [rowsOf, List.forall_mem_cons]
    exact ⟨by rw [List.length_cons, List.length_map], by simpa only [List.length_map] using ih (cols.map List.tail)⟩

theorem rowsOf_col0 (idl : List Int) (cols : List (List α)) :
    (rowsOf idl cols).filterMap (·[0]?) = idl.map Tok.cfg := by
  induction idl generalizing cols with
  | nil => rfl
  | cons c cs ih => rw [rowsOf, List.filterMap_cons, List.getElem?_cons_zero, ih, List.map_cons]

theorem rowsOf_col (idl : List Int) (cols : List (List α)) (a : Nat) (col : List α)
    (hc : cols[a]? = some col) (hl : col.length = idl.length) :
    (rowsOf idl cols).filterMap (·[a + 1]?) = col.map Tok.num := by
  induction idl generalizing cols col with
  | nil => rw [List.length_eq_zero_iff.mp hl]; rfl
  | cons c cs ih =>
    cases col with
    | nil => cases hl
    | cons x xs =>
      rw [rowsOf, List.filterMap_cons, List.getElem?_cons_succ, List.getElem?_map, hc,
        ih (cols.map List.tail) xs (by rw [List.getElem?_map, hc]; rfl) (Nat.succ.inj hl)]
      rfl

theorem stride_rows (idl : List Int) (cols : List (List α)) :
    stride (cols.length + 1) 0 (rowsOf idl cols).flatten = idl.map Tok.cfg ∧
    ∀ a col, cols[a]? = some col → col.length = idl.length →
      stride (cols.length + 1) (1 + a) (rowsOf idl cols).flatten = col.map Tok.num := by
  refine ⟨?_, fun a col hc hl => ?_⟩
  · rw [stride_flatten (Nat.succ_pos _) (rowsOf_width idl cols), rowsOf_col0]
  · have ha := (List.getElem?_eq_some_iff.mp hc).1
    rw [Nat.add_comm 1 a, stride_flatten (Nat.succ_lt_succ ha) (rowsOf_width idl cols), rowsOf_col idl cols a col hc hl]

omit [Scalar α] in
theorem mapM_asCfg (l : List Int) : (l.map (Tok.cfg (α := α))).mapM asCfg = some l :=
  (mapM_eq_some_iff ..).mpr (List.map_map ..)

omit [Scalar α] in
theorem mapM_asNum (l : List α) : (l.map Tok.num).mapM asNum = some l :=
  (mapM_eq_some_iff ..).mpr (List.map_map ..)

theorem readBlock_written {b : Block α} {idl : List Int} {cols : List (List α)} (hnc : b.nc = idl.length)
    (hna : b.na = cols.length) (htoks : b.toks = (rowsOf idl cols).flatten)
    (hl : ∀ col ∈ cols, col.length = idl.length) : readBlock b = .ok (idl, cols) := by
  obtain ⟨h0, hc⟩ := stride_rows idl cols
  have hcols : (List.range cols.length).mapM (fun a => (stride (cols.length + 1) (1 + a) (rowsOf idl cols).flatten).mapM asNum)
      = some cols :=
    mapM_eq_some_forall₂.mpr <| forall₂_range fun a ha => by
      rw [hc a _ (List.getElem?_eq_getElem ha) (hl _ (List.getElem_mem ha)), mapM_asNum]
  unfold readBlock
  simp only []
  rw [hna, htoks, h0, mapM_asCfg, hcols]
  simp [hnc]

theorem write_eq_ok {o0 : Obs α} {rest : List (Obs α)} {bs : List (Block α)} :
    write (o0 :: rest) = .ok bs ↔
      (∀ o ∈ o0 :: rest, (o.mcNames.length = 1 ∧ o.covs.length = 0) ∧ o.mcNames = o0.mcNames ∧
        o.reps.length = o0.reps.length ∧
        o.reps.map (fun r => (r.name, r.idl.toList)) = o0.reps.map (fun r => (r.name, r.idl.toList)) ∧
        ∀ r ∈ o.reps, r.deltas.length = r.idl.len) ∧
      bs = o0.reps.map (blockOf (o0 :: rest)) := by
  simp only [write, ite_error_eq_ok, List.any_eq_true, Bool.or_eq_true, bne_iff_ne, ne_eq, not_exists, not_and, not_or,
    Decidable.not_not, Except.ok.injEq, eq_comm (a := bs), forall_and, and_assoc]

theorem filter_ne_bar {l : List Char} (h : '|' ∉ l) : l.filter (· != '|') = l :=
  List.filter_eq_self.mpr fun c hc => by
    have : c ≠ '|' := fun e => h (e ▸ hc)
    simpa using this

theorem fix_restores (e r : List Char) (he : '|' ∉ e) (hr : '|' ∉ r) :
    fixOf (some e.length) (stripBar (String.ofList (e ++ '|' :: r))) = String.ofList (e ++ '|' :: r) := by
  simp [fixOf, insertBar, stripBar, List.filter_append, filter_ne_bar he, filter_ne_bar hr]

theorem fix_none (n : List Char) (hn : '|' ∉ n) : fixOf none (stripBar (String.ofList n)) = String.ofList n := by
  simp [fixOf, stripBar, filter_ne_bar hn]

/-! ### at ℝ: the constructor (`mkObs`) rebuilds an observable from its samples -/

open PV.RealS

/-- hypotheses under which a single-ensemble observable is determined by its per-configuration samples, that is,
    comes back from `Obs(samples, names, idl=idl)`.  `five`: the constructor refuses chains of fewer than five samples
    (obs.py 90); `flag`: it returns `reweighted = False`, and the file does not record the flag -/
structure Rebuildable (o : Obs ℝ) : Prop where
  wf : o.WF = true
  one : o.mcNames.length = 1
  nocov : o.covs = []
  zero : ∀ r ∈ o.reps, r.deltas.sum = 0
  five : ∀ r ∈ o.reps, 5 ≤ r.idl.len
  flag : o.reweighted = false
  /-- the central value is the weighted mean of the replica means (what the constructor computes) -/
  primary : o.value = Scalar.sum (o.reps.map (fun r => ofNatS r.idl.len * r.rvalue))
      / ofNatS ((o.reps.map (·.idl.len)).foldr (· + ·) 0)

theorem mkRep_samples {o : Obs ℝ} (H : Rebuildable o) {r : Rep ℝ} (hr : r ∈ o.reps) :
    mkRep (r.name, Idl.list r.idl.toList, Rep.samples r) = .ok r := by
  have hw := Obs.wf_iff.mp H.wf
  have hlen := hw.len r hr
  have h5 := H.five r hr
  refine mkRep_eq_ok.mpr ⟨r.idl, hw.normalise_idl hr fun s n st he => ?_, by simp [Rep.samples, hlen], ?_⟩
  · rw [he, Idl.len, Idl.length_toList_range] at h5
    omega
  · rw [Rep.samples, mean_shift _ (fun h => by simp [h] at hlen; omega) (H.zero r hr), map_add_sub]

theorem mkObs_rebuild (o : Obs ℝ) (H : Rebuildable o) :
    mkObs (o.reps.map Rep.samples) o.names (some (o.reps.map (fun r => Idl.list r.idl.toList))) = .ok o := by
  have hw := Obs.wf_iff.mp H.wf
  refine mkObs_eq_ok.mpr ⟨⟨by simp [Obs.names], fun il hil => ?_, fun _ => ⟨?_, ?_⟩, fun s hs => ?_⟩, o.reps, ?_, ?_⟩
  · cases hil; simp [Obs.names]
  · rw [Py.sortedSetStr_eq_of hw.names fun _ => Iff.rfl]
  · exact H.one.le
  · obtain ⟨r, hr, rfl⟩ := List.mem_map.mp hs
    have := H.five r hr
    simp only [Rep.samples, List.length_map, hw.len r hr]
    omega
  · -- the chains are sorted by name already
    rw [mkTriples, mkIdls, Obs.names, List.zip_map', List.zip_map', Py.sortBy_eq_of_perm Prod.fst
      (fun _ _ => decide_eq_true_iff) (.refl _) (List.pairwise_map.mpr (List.pairwise_map.mp hw.names)), List.mapM_map,
      mapM_eq_ok_map (g := id), List.map_id]
    exact fun r hr => mkRep_samples H hr
  · cases o
    simp only [ofReps, Obs.mk.injEq, true_and] at *
    exact ⟨H.primary, H.nocov, H.flag⟩

/-- what `create_pobs_string` demands of a list (since fix 776c1b2) together with the conditions under which
    the samples determine each observable; `fix` is the treatment of the separator on import -/
structure PWritable (fix : String → String) (o0 : Obs ℝ) (rest : List (Obs ℝ)) : Prop where
  each : ∀ o ∈ o0 :: rest, Rebuildable o
  chains : ∀ o ∈ rest, o.reps.map (fun r => (r.name, r.idl)) = o0.reps.map (fun r => (r.name, r.idl))
  names : ∀ r ∈ o0.reps, fix (stripBar r.name) = r.name

theorem colOf_of_mem {o : Obs ℝ} (hwf : o.WF = true) {r : Rep ℝ} (hr : r ∈ o.reps) : colOf o r.name = Rep.samples r := by
  rw [colOf, Obs.rep?_of_mem (Obs.wf_iff.mp hwf).names_nodup hr]
  rfl

section
variable {fix : String → String} {o0 : Obs ℝ} {rest : List (Obs ℝ)} (H : PWritable fix o0 rest)
include H

theorem PWritable.chains' : ∀ o ∈ o0 :: rest,
    o.reps.map (fun r => (r.name, r.idl)) = o0.reps.map (fun r => (r.name, r.idl)) :=
  List.forall_mem_cons.mpr ⟨rfl, H.chains⟩

theorem write_ok : write (o0 :: rest) = .ok (o0.reps.map (blockOf (o0 :: rest))) := by
  refine write_eq_ok.mpr ⟨fun o ho => ?_, rfl⟩
  have hch := H.chains' o ho
  refine ⟨⟨(H.each o ho).one, by simp [(H.each o ho).nocov]⟩, ?_, by simpa using congrArg List.length hch,
    map_of_map_eq hch fun p => (p.1, p.2.toList), (Obs.wf_iff.mp (H.each o ho).wf).len⟩
  rw [Obs.mcNames, Obs.mcNames, Obs.names, Obs.names, map_of_map_eq hch Prod.fst]

end

end PV.Pobs
