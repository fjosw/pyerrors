/-
  The matrix algebra behind property C06 (Mathlib only, over ℝ).  For observables a, b measured on replicas r with
  fluctuation vectors a_r, b_r (restricted to the common configurations) `_covariance_element` computes per ensemble
      g = (Σ_r ⟨a_r, b_r⟩) / (Σ_r √(⟨a_r, a_r⟩ ⟨b_r, b_r⟩))
  and sums these over ensembles; the correlation matrix is corr_ij = cov_ij / √(cov_ii cov_jj).  The theorems are the
  identities and inequalities, valid for all sizes, that `covariance` and the helpers built on it (`sort_corr`,
  `invert_corr_cov_cholesky`, `_smooth_eigenvalues`, `error_band`) rely on.
-/
import Mathlib.LinearAlgebra.Matrix.Permutation
import Mathlib.LinearAlgebra.Matrix.PosDef
import Mathlib.Algebra.Order.Star.Real
import PV.Proofs.MatrixAlg

namespace PV.C06
open Matrix

theorem abs_sum_mul_le_sqrt {κ : Type*} [Fintype κ] (f g : κ → ℝ) :
    |∑ k, f k * g k| ≤ Real.sqrt ((∑ k, f k ^ 2) * (∑ k, g k ^ 2)) :=
  Real.abs_le_sqrt (Finset.sum_mul_sq_le_sq_mul_sq Finset.univ f g)

theorem quadForm_eq_sum {n : Type*} [Fintype n] (C : Matrix n n ℝ) (g h : n → ℝ) :
    g ⬝ᵥ C *ᵥ h = ∑ i, ∑ j, g i * C i j * h j := by
  simp only [dotProduct, mulVec, Finset.mul_sum, mul_assoc]

end PV.C06

namespace PV
open Matrix Finset PV.C06

/-- C06 (correlation entries lie in [-1,1]; numerator vs. denominator of the per-ensemble
    normalised element `g`).  Each replica `r : ι` has its own finite set of common configurations
    `κ r`, so no zero padding is needed. -/
theorem c06_cauchy_replicas {ι : Type*} [Fintype ι] {κ : ι → Type*} [∀ r, Fintype (κ r)]
    (a b : ∀ r, κ r → ℝ) :
    |∑ r, ∑ k, a r k * b r k| ≤
      ∑ r, Real.sqrt ((∑ k, a r k ^ 2) * (∑ k, b r k ^ 2)) :=
  (Finset.abs_sum_le_sum_abs _ _).trans
    (Finset.sum_le_sum fun r _ => abs_sum_mul_le_sqrt (a r) (b r))

/-- C06 (the version with one common configuration index `κ`, i.e. with zero padding). -/
theorem c06_cauchy_replicas_common {ι κ : Type*} [Fintype ι] [Fintype κ] (a b : ι → κ → ℝ) :
    |∑ r, ∑ k, a r k * b r k| ≤
      ∑ r, Real.sqrt ((∑ k, a r k ^ 2) * (∑ k, b r k ^ 2)) :=
  c06_cauchy_replicas (κ := fun _ => κ) a b

/-- C06 (|g| ≤ 1 per ensemble).  No hypothesis on the denominator: when it vanishes, real division
    by zero gives `g = 0`. -/
theorem c06_cauchy_replicas_ratio {ι : Type*} [Fintype ι] {κ : ι → Type*} [∀ r, Fintype (κ r)]
    (a b : ∀ r, κ r → ℝ) :
    |(∑ r, ∑ k, a r k * b r k) /
      (∑ r, Real.sqrt ((∑ k, a r k ^ 2) * (∑ k, b r k ^ 2)))| ≤ 1 :=
  MatrixAlg.abs_div_le_one (c06_cauchy_replicas a b)

/-- C06 (unit diagonal of the normalised element): with `a = b`, `g = 1`.  Hypothesis: the
    denominator is non-zero (equivalently, some replica has a non-zero fluctuation). -/
theorem c06_self_normalised {ι : Type*} [Fintype ι] {κ : ι → Type*} [∀ r, Fintype (κ r)]
    (a : ∀ r, κ r → ℝ)
    (hden : (∑ r, Real.sqrt ((∑ k, a r k ^ 2) * (∑ k, a r k ^ 2))) ≠ 0) :
    (∑ r, ∑ k, a r k ^ 2) /
      (∑ r, Real.sqrt ((∑ k, a r k ^ 2) * (∑ k, a r k ^ 2))) = 1 := by
  simp only [Real.sqrt_mul_self (Finset.sum_nonneg fun _ _ => sq_nonneg _)] at hden ⊢
  exact div_self hden

/-- non-vacuity of `c06_self_normalised`: two replicas, three configurations,
    `a_0 = (1,2,0)`, `a_1 = (0,-1,3)`; the denominator is `5 + 10 ≠ 0`. -/
example :
    (∑ r : Fin 2, Real.sqrt ((∑ k : Fin 3, (!![1, 2, 0; 0, -1, 3] : Matrix _ _ ℝ) r k ^ 2) *
      (∑ k : Fin 3, (!![1, 2, 0; 0, -1, 3] : Matrix _ _ ℝ) r k ^ 2))) ≠ 0 := by
  refine (Finset.sum_pos' (fun r _ => Real.sqrt_nonneg _) ⟨0, mem_univ _, Real.sqrt_pos.2 ?_⟩).ne'
  norm_num [Fin.sum_univ_succ]

/-- C06 (single chain, common configurations: the covariance at window 0 is PSD): it is a Gram
    matrix `Xᵀ * X`, whose quadratic form is `‖X v‖²` (the argument in the docstring of
    `covariance`). -/
theorem c06_gram_psd {m n : Type*} [Fintype m] [Fintype n] (X : Matrix m n ℝ) :
    (Xᵀ * X).IsSymm ∧
    (∀ v : n → ℝ, v ⬝ᵥ (Xᵀ * X) *ᵥ v = (X *ᵥ v) ⬝ᵥ (X *ᵥ v)) ∧
    (∀ v : n → ℝ, 0 ≤ v ⬝ᵥ (Xᵀ * X) *ᵥ v) :=
  ⟨MatrixAlg.gram_isSymm X, MatrixAlg.gram_quadratic X, fun v => by
    rw [MatrixAlg.gram_quadratic]
    exact MatrixAlg.dotProduct_self_nonneg' _⟩

/-- C06 (same fact in Mathlib's vocabulary): `Xᵀ * X` is `Matrix.PosSemidef` over ℝ. -/
theorem c06_gram_posSemidef {m n : Type*} [Fintype m] [Fintype n] (X : Matrix m n ℝ) :
    (Xᵀ * X).PosSemidef := by
  have h := Matrix.posSemidef_conjTranspose_mul_self X
  rwa [Matrix.conjTranspose_eq_transpose_of_trivial] at h

/-- C06 (rescaling the correlation matrix by the errors keeps PSD:
    `cov = np.diag(errors) @ corr @ np.diag(errors)` in `covariance`).  Symmetry of `C` is not needed
    for the quadratic-form inequality, so it is only a hypothesis of the symmetry conclusion. -/
theorem c06_rescale_psd {n : Type*} [Fintype n] [DecidableEq n] (C : Matrix n n ℝ) (d : n → ℝ)
    (hC : ∀ v : n → ℝ, 0 ≤ v ⬝ᵥ C *ᵥ v) :
    (∀ v : n → ℝ, 0 ≤ v ⬝ᵥ (diagonal d * C * diagonal d) *ᵥ v) ∧
    (C.IsSymm → (diagonal d * C * diagonal d).IsSymm) := by
  constructor
  · intro v
    have h := MatrixAlg.bilin_conj (diagonal d) C v v
    rw [Matrix.diagonal_transpose] at h
    rw [h]
    exact hC _
  · intro hs
    rw [Matrix.IsSymm, Matrix.transpose_mul, Matrix.transpose_mul, Matrix.diagonal_transpose,
      hs.eq, Matrix.mul_assoc]

/-- non-vacuity of `c06_rescale_psd`: `C = [[2,1],[1,2]]` is symmetric and PSD
    (`2x² + 2xy + 2y² = x² + y² + (x+y)²`). -/
example : (!![2, 1; 1, 2] : Matrix (Fin 2) (Fin 2) ℝ).IsSymm ∧
    ∀ v : Fin 2 → ℝ, 0 ≤ v ⬝ᵥ (!![2, 1; 1, 2] : Matrix (Fin 2) (Fin 2) ℝ) *ᵥ v :=
  ⟨MatrixAlg.ex_isSymm, MatrixAlg.ex_psd⟩

/-- C06 (`sort_corr` and list permutation).  Reindexing a matrix by a permutation `σ`
    (`C.submatrix σ σ`) is conjugation with the permutation matrix `P = σ.permMatrix ℝ`
    (`P i j = 1` iff `σ i = j`); the diagonal is permuted along, and a symmetric `C` stays
    symmetric. -/
theorem c06_perm_conj {n : Type*} [Fintype n] [DecidableEq n] (σ : Equiv.Perm n)
    (C : Matrix n n ℝ) :
    σ.permMatrix ℝ * C * (σ.permMatrix ℝ)ᵀ = C.submatrix σ σ ∧
    (∀ i j, (σ.permMatrix ℝ * C * (σ.permMatrix ℝ)ᵀ) i j = C (σ i) (σ j)) ∧
    (∀ i, (σ.permMatrix ℝ * C * (σ.permMatrix ℝ)ᵀ) i i = C (σ i) (σ i)) ∧
    (C.IsSymm → (σ.permMatrix ℝ * C * (σ.permMatrix ℝ)ᵀ).IsSymm) := by
  have key : σ.permMatrix ℝ * C * (σ.permMatrix ℝ)ᵀ = C.submatrix σ σ := by
    rw [Matrix.transpose_permMatrix, Equiv.Perm.permMatrix, Equiv.Perm.permMatrix,
      PEquiv.toMatrix_toPEquiv_mul, PEquiv.mul_toMatrix_toPEquiv, submatrix_submatrix]
    rfl
  refine ⟨key, fun i j => ?_, fun i => ?_, fun hs => ?_⟩
  · rw [key, Matrix.submatrix_apply]
  · rw [key, Matrix.submatrix_apply]
  · rw [key]
    exact hs.submatrix σ

/-- non-vacuity of the symmetry hypothesis in `c06_perm_conj` -/
example : (!![1, 5; 5, 2] : Matrix (Fin 2) (Fin 2) ℝ).IsSymm :=
  MatrixAlg.transpose_fin_two 1 5 5 2

/-- C06 (eigenvalue smoothing preserves the trace).  For a square `V` "orthogonal"
    (`Vᵀ * V = 1` and `V * Vᵀ = 1`) is equivalent to `Vᵀ * V = 1` alone and only this half is
    used, so only it is assumed; the statement then also covers rectangular `V` with orthonormal
    columns. -/
theorem c06_smooth_trace {m n : Type*} [Fintype m] [Fintype n] [DecidableEq n]
    (V : Matrix m n ℝ) (d : n → ℝ) (hV : Vᵀ * V = 1) :
    trace (V * diagonal d * Vᵀ) = ∑ i, d i := by
  rw [Matrix.trace_mul_comm, ← Matrix.mul_assoc, hV, Matrix.one_mul, Matrix.trace_diagonal]

/-- C06 (corollary: smoothing followed by normalising the eigenvalues to mean 1, as
    `_smooth_eigenvalues` does, keeps the trace `n` of a correlation matrix).  The mean-one
    hypothesis forces `n ≠ 0`, since `x / 0 = 0 ≠ 1` in ℝ. -/
theorem c06_smooth_trace_mean_one {n : Type*} [Fintype n] [DecidableEq n]
    (V : Matrix n n ℝ) (d : n → ℝ) (hV : Vᵀ * V = 1)
    (hmean : (∑ i, d i) / (Fintype.card n : ℝ) = 1) :
    trace (V * diagonal d * Vᵀ) = (Fintype.card n : ℝ) := by
  rw [c06_smooth_trace V d hV]
  have hn : (Fintype.card n : ℝ) ≠ 0 := fun h0 => by simp only [h0, div_zero, zero_ne_one] at hmean
  exact (div_eq_one_iff_eq hn).mp hmean

/-- non-vacuity of `c06_smooth_trace` / `c06_smooth_trace_mean_one`: the rotation by the angle with
    `cos = 3/5, sin = 4/5` is orthogonal, and `d = (1/2, 3/2)` has mean one. -/
example :
    let V : Matrix (Fin 2) (Fin 2) ℝ := !![3/5, -4/5; 4/5, 3/5]
    let d : Fin 2 → ℝ := ![1/2, 3/2]
    Vᵀ * V = 1 ∧ V * Vᵀ = 1 ∧ (∑ i, d i) / (Fintype.card (Fin 2) : ℝ) = 1 := by
  intro V d
  have h : Vᵀ * V = 1 := by
    rw [MatrixAlg.transpose_fin_two, Matrix.mul_fin_two, Matrix.one_fin_two]
    norm_num
  -- a left inverse of a square matrix is a right inverse
  exact ⟨h, mul_eq_one_comm.1 h, by rw [Fin.sum_univ_two, Fintype.card_fin]; norm_num [d]⟩

/-- C06 (`invert_corr_cov_cholesky` returns the factor of the inverse covariance).  With `C` the
    correlation matrix `corr`, `L` its Cholesky factor `chol` and `D = diagonal d` the matrix
    `inverrdiag` of inverse errors, `X := L⁻¹ * D` is what `solve_triangular(chol, inverrdiag)`
    returns, and `Xᵀ * X` is the inverse of the covariance matrix `D⁻¹ C D⁻¹`.  Hypotheses:
    invertibility of `L` and non-vanishing of the `d i`; triangularity of `L` is not needed. -/
theorem c06_chol_inverse {n : Type*} [Fintype n] [DecidableEq n] (L C : Matrix n n ℝ) (d : n → ℝ)
    (hLC : L * Lᵀ = C) (hL : IsUnit L.det) (hd : ∀ i, d i ≠ 0) :
    L * (L⁻¹ * diagonal d) = diagonal d ∧
    (L⁻¹ * diagonal d)ᵀ * (L⁻¹ * diagonal d) =
      ((diagonal d)⁻¹ * C * (diagonal d)⁻¹)⁻¹ := by
  have hD : IsUnit (diagonal d).det := by
    rw [Matrix.det_diagonal, isUnit_iff_ne_zero]
    exact Finset.prod_ne_zero_iff.mpr fun i _ => hd i
  refine ⟨Matrix.mul_nonsing_inv_cancel_left _ _ hL, ?_⟩
  -- `(D⁻¹ L Lᵀ D⁻¹)⁻¹ = D (Lᵀ)⁻¹ L⁻¹ D`
  rw [← hLC, Matrix.mul_inv_rev, Matrix.mul_inv_rev, Matrix.mul_inv_rev, Matrix.nonsing_inv_nonsing_inv _ hD,
    ← Matrix.transpose_nonsing_inv, Matrix.transpose_mul, Matrix.diagonal_transpose]
  simp only [Matrix.mul_assoc]

/-- non-vacuity of `c06_chol_inverse`: `L = [[2,0],[1,3]]` (lower triangular, det 6),
    `C = L Lᵀ = [[4,2],[2,10]]`, `d = (2, 5)`. -/
example :
    let L : Matrix (Fin 2) (Fin 2) ℝ := !![2, 0; 1, 3]
    let C : Matrix (Fin 2) (Fin 2) ℝ := !![4, 2; 2, 10]
    let d : Fin 2 → ℝ := ![2, 5]
    L * Lᵀ = C ∧ IsUnit L.det ∧ ∀ i, d i ≠ 0 := by
  refine ⟨?_, ?_, ?_⟩
  · rw [MatrixAlg.transpose_fin_two, Matrix.mul_fin_two]
    norm_num
  · rw [Matrix.det_fin_two_of]
    norm_num
  · simp [Fin.forall_fin_two]

/-- C06 (fit error band, `np.sqrt(deriv[i] @ cov @ deriv[i])` in `error_band`).  For a PSD `C` the
    argument of the square root is non-negative and is the variance `Σ i j, g i * C i j * g j` of
    the linear combination, so the square root is a genuine standard deviation.  Symmetry of `C` is
    not needed. -/
theorem c06_error_band {n : Type*} [Fintype n] (C : Matrix n n ℝ) (g : n → ℝ)
    (hC : ∀ v : n → ℝ, 0 ≤ v ⬝ᵥ C *ᵥ v) :
    0 ≤ g ⬝ᵥ C *ᵥ g ∧
    g ⬝ᵥ C *ᵥ g = ∑ i, ∑ j, g i * C i j * g j ∧
    Real.sqrt (g ⬝ᵥ C *ᵥ g) ^ 2 = ∑ i, ∑ j, g i * C i j * g j := by
  refine ⟨hC g, quadForm_eq_sum C g g, ?_⟩
  rw [Real.sq_sqrt (hC g), quadForm_eq_sum]

/-- non-vacuity of `c06_error_band` (same PSD matrix as above) -/
example : ∀ v : Fin 2 → ℝ, 0 ≤ v ⬝ᵥ (!![2, 1; 1, 2] : Matrix (Fin 2) (Fin 2) ℝ) *ᵥ v :=
  MatrixAlg.ex_psd

/-- C06 (the external-input contribution `J1 Σ J2ᵀ`): symmetric in the two observables for a
    symmetric covariance matrix `S`, and non-negative on the diagonal for a PSD one. -/
theorem c06_external_cov {n : Type*} [Fintype n] (S : Matrix n n ℝ) (hS : S.IsSymm) :
    (∀ g1 g2 : n → ℝ, g1 ⬝ᵥ S *ᵥ g2 = g2 ⬝ᵥ S *ᵥ g1) ∧
    ((∀ v : n → ℝ, 0 ≤ v ⬝ᵥ S *ᵥ v) → ∀ g : n → ℝ, 0 ≤ g ⬝ᵥ S *ᵥ g) := by
  refine ⟨fun g1 g2 => ?_, fun h g => h g⟩
  exact MatrixAlg.bilin_symm hS.eq g1 g2

/-- non-vacuity of `c06_external_cov`: a symmetric PSD matrix exists -/
example : (!![2, 1; 1, 2] : Matrix (Fin 2) (Fin 2) ℝ).IsSymm ∧
    ∀ v : Fin 2 → ℝ, 0 ≤ v ⬝ᵥ (!![2, 1; 1, 2] : Matrix (Fin 2) (Fin 2) ℝ) *ᵥ v :=
  ⟨MatrixAlg.ex_isSymm, MatrixAlg.ex_psd⟩

end PV
