/-
  C10 — the identities the matrix routines of pyerrors (`linalg.matmul`, `inv`, `cholesky`, `det`, `eigh`, `pinv`, the
  complex block embedding of `_mat_mat_op`, `jack_matmul`) rely on, for all sizes.  An observable is read as
  (value, fluctuation): a perturbation `A + t dA` whose part of first order in `t` is the fluctuation.
-/
import Mathlib.Data.Complex.BigOperators
import Mathlib.Algebra.Order.Star.Real
import Mathlib.LinearAlgebra.Matrix.PosDef
import Mathlib.LinearAlgebra.Matrix.Charpoly.Coeff
import Mathlib.Analysis.Calculus.Deriv.Polynomial
import PV.Proofs.MatrixAlg

namespace PV

open Matrix

/-- C10 (matmul, product rule).  The product of the perturbed matrices `A + t dA`, `B + t dB` expands exactly, with
    first-order (fluctuation) part `dA B + A dB`; and the product is the explicit sum of element products.
    Backs `linalg.matmul`. -/
theorem c10_matmul_product_rule {l m n : Type*} [Fintype m]
    (A dA : Matrix l m ℝ) (B dB : Matrix m n ℝ) (t : ℝ) :
    (A + t • dA) * (B + t • dB) = A * B + t • (dA * B + A * dB) + t ^ 2 • (dA * dB) ∧
    ∀ i k, (A * B) i k = ∑ j, A i j * B j k := by
  refine ⟨?_, fun i k => Matrix.mul_apply⟩
  simp only [Matrix.add_mul, Matrix.mul_add, Matrix.smul_mul, Matrix.mul_smul, smul_add, smul_smul,
    pow_two]
  abel

example :
    ((!![1, 2; 3, 4] : Matrix (Fin 2) (Fin 2) ℝ) + (2 : ℝ) • !![0, 1; 1, 0]) *
        (!![0, 1; 1, 1] + (2 : ℝ) • !![1, 0; 0, 2]) =
      !![1, 2; 3, 4] * !![0, 1; 1, 1] +
        (2 : ℝ) • (!![0, 1; 1, 0] * !![0, 1; 1, 1] + !![1, 2; 3, 4] * !![1, 0; 0, 2]) +
        (2 : ℝ) ^ 2 • (!![0, 1; 1, 0] * !![1, 0; 0, 2]) :=
  (c10_matmul_product_rule _ _ _ _ _).1

/-- `np.block([[A, -B], [B, A]])` of `_mat_mat_op`: stands for the complex matrix `X + iY` -/
def C10.embed {n : Type*} (X Y : Matrix n n ℝ) : Matrix (n ⊕ n) (n ⊕ n) ℝ :=
  Matrix.fromBlocks X (-Y) Y X

def C10.embedC {n : Type*} (Z : Matrix n n ℂ) : Matrix (n ⊕ n) (n ⊕ n) ℝ :=
  C10.embed (Z.map Complex.re) (Z.map Complex.im)

open C10

/-- C10 (the complex block embedding is a ring homomorphism).  `embed X Y = [[X, -Y], [Y, X]]` stands for `X + iY`:
    product, sum and `1` of such blocks are the blocks of the complex product, sum and `1`.  Backs the complex branch
    of `linalg.inv` / `_mat_mat_op` (a complex matrix is inverted through its real block form). -/
theorem c10_complex_block_embed {n : Type*} [Fintype n] [DecidableEq n]
    (X1 Y1 X2 Y2 : Matrix n n ℝ) :
    embed X1 Y1 * embed X2 Y2 = embed (X1 * X2 - Y1 * Y2) (X1 * Y2 + Y1 * X2) ∧
    embed X1 Y1 + embed X2 Y2 = embed (X1 + X2) (Y1 + Y2) ∧
    embed (1 : Matrix n n ℝ) 0 = 1 := by
  refine ⟨?_, ?_, ?_⟩
  · simp only [embed, Matrix.fromBlocks_multiply, Matrix.neg_mul, Matrix.mul_neg]
    rw [← sub_eq_add_neg, ← neg_add, add_comm (Y1 * X2), neg_add_eq_sub]
  · simp only [embed, Matrix.fromBlocks_add, neg_add]
  · simp [embed, Matrix.fromBlocks_one]

/-- C10 (block embedding commutes with inversion).  If `X2 + iY2` is a right inverse of `X1 + iY1` (`hre`, `him`: real
    and imaginary part of the product), inverting the real block matrix and reading off the blocks yields the complex
    inverse. -/
theorem c10_complex_block_embed_inv {n : Type*} [Fintype n] [DecidableEq n]
    (X1 Y1 X2 Y2 : Matrix n n ℝ)
    (hre : X1 * X2 - Y1 * Y2 = 1) (him : X1 * Y2 + Y1 * X2 = 0) :
    IsUnit (embed X1 Y1).det ∧ (embed X1 Y1)⁻¹ = embed X2 Y2 := by
  have h : embed X1 Y1 * embed X2 Y2 = 1 := by
    rw [(c10_complex_block_embed X1 Y1 X2 Y2).1, hre, him]
    exact (c10_complex_block_embed (1 : Matrix n n ℝ) 0 0 0).2.2
  exact ⟨(Matrix.isUnit_det_of_right_inverse h), Matrix.inv_eq_right_inv h⟩

/-- non-vacuity: `Z = i·1` on 1×1 (`X1 = 0, Y1 = 1`) has inverse `-i` (`X2 = 0, Y2 = -1`) -/
example : (embed (0 : Matrix (Fin 1) (Fin 1) ℝ) 1)⁻¹ = embed 0 (-1) :=
  (c10_complex_block_embed_inv (0 : Matrix (Fin 1) (Fin 1) ℝ) 1 0 (-1) (by simp) (by simp)).2

lemma C10.map_re_mul {n : Type*} [Fintype n] (Z W : Matrix n n ℂ) :
    (Z * W).map Complex.re = Z.map Complex.re * W.map Complex.re - Z.map Complex.im * W.map Complex.im := by
  ext i j
  simp only [Matrix.map_apply, Matrix.mul_apply, Matrix.sub_apply, Complex.re_sum, Complex.mul_re,
    Finset.sum_sub_distrib]

lemma C10.map_im_mul {n : Type*} [Fintype n] (Z W : Matrix n n ℂ) :
    (Z * W).map Complex.im = Z.map Complex.re * W.map Complex.im + Z.map Complex.im * W.map Complex.re := by
  ext i j
  simp only [Matrix.map_apply, Matrix.mul_apply, Matrix.add_apply, Complex.im_sum, Complex.mul_im,
    Finset.sum_add_distrib]

/-- C10 (block embedding, stated on genuinely complex matrices).  `embedC Z = [[Re Z, -Im Z], [Im Z, Re Z]]` is
    multiplicative, additive, unital, and commutes with the inverse of an invertible `Z`. -/
theorem c10_complex_block_embed_complex {n : Type*} [Fintype n] [DecidableEq n]
    (Z W : Matrix n n ℂ) :
    embedC (Z * W) = embedC Z * embedC W ∧
    embedC (Z + W) = embedC Z + embedC W ∧
    embedC (1 : Matrix n n ℂ) = 1 ∧
    (IsUnit Z.det → embedC Z⁻¹ = (embedC Z)⁻¹) := by
  have hmul : ∀ Z W : Matrix n n ℂ, embedC (Z * W) = embedC Z * embedC W := by
    intro Z W
    unfold embedC
    rw [(c10_complex_block_embed _ _ _ _).1, map_re_mul, map_im_mul]
  have hone : embedC (1 : Matrix n n ℂ) = 1 := by
    unfold embedC
    rw [← (c10_complex_block_embed (1 : Matrix n n ℝ) 0 0 0).2.2]
    congr 1
    · exact Matrix.map_one _ Complex.zero_re Complex.one_re
    · ext i j; by_cases h : i = j <;> simp [h]
  refine ⟨hmul Z W, ?_, hone, ?_⟩
  · unfold embedC
    rw [(c10_complex_block_embed _ _ _ _).2.1]
    congr 1
  · intro hZ
    have h : embedC Z * embedC Z⁻¹ = 1 := by
      rw [← hmul, Matrix.mul_nonsing_inv _ hZ, hone]
    exact (Matrix.inv_eq_right_inv h).symm

/-- non-vacuity: the 1×1 complex matrix `(i)` is invertible -/
example : IsUnit (!![Complex.I] : Matrix (Fin 1) (Fin 1) ℂ).det := by
  simp [Matrix.det_unique]

/-- C10 (derivative of the matrix inverse).  For invertible `A`, `dB = -A⁻¹ dA A⁻¹` makes the first-order part
    `dA A⁻¹ + A dB` of `A A⁻¹ = 1` vanish, and is the only matrix that does.  Backs `linalg.inv` (fluctuation of the
    inverse). -/
theorem c10_inv_derivative {n : Type*} [Fintype n] [DecidableEq n]
    (A dA : Matrix n n ℝ) (hA : IsUnit A.det) :
    dA * A⁻¹ + A * (-(A⁻¹ * dA * A⁻¹)) = 0 ∧
    ∀ dB : Matrix n n ℝ, dA * A⁻¹ + A * dB = 0 → dB = -(A⁻¹ * dA * A⁻¹) := by
  have key (dB : Matrix n n ℝ) : dA * A⁻¹ + A * dB = 0 ↔ dB = -(A⁻¹ * dA * A⁻¹) := by
    rw [add_comm, ← eq_neg_iff_add_eq_zero, MatrixAlg.mul_eq_iff_eq_inv_mul hA, Matrix.mul_neg, Matrix.mul_assoc]
  exact ⟨(key _).mpr rfl, fun dB => (key dB).mp⟩

/-- non-vacuity: `[[2,1],[1,1]]` has determinant 1 -/
example : IsUnit (!![2, 1; 1, 1] : Matrix (Fin 2) (Fin 2) ℝ).det := by
  norm_num [Matrix.det_fin_two]

/-- C10 (derivative of the Cholesky factor).  If `A = L Lᵀ` and `dL` solves the first-order equation
    `dL Lᵀ + L dLᵀ = dA`, the perturbed factor reproduces the perturbed matrix to first order.
    Backs `linalg.cholesky`.  (`L` may even be rectangular.) -/
theorem c10_cholesky_derivative {n m : Type*} [Fintype m]
    (A dA : Matrix n n ℝ) (L dL : Matrix n m ℝ) (t : ℝ)
    (hA : A = L * Lᵀ) (hd : dL * Lᵀ + L * dLᵀ = dA) :
    (L + t • dL) * (L + t • dL)ᵀ = A + t • dA + t ^ 2 • (dL * dLᵀ) := by
  rw [transpose_add, transpose_smul, (c10_matmul_product_rule L dL Lᵀ dLᵀ t).1, hA, hd]

/-- non-vacuity: `L = [[1,0],[2,3]]`, `dL = [[1,0],[1,1]]`, `A = L Lᵀ`, `dA = dL Lᵀ + L dLᵀ` -/
example : ∃ (A dA L dL : Matrix (Fin 2) (Fin 2) ℝ),
    A = L * Lᵀ ∧ dL * Lᵀ + L * dLᵀ = dA ∧ L ≠ 0 ∧ dL ≠ 0 :=
  ⟨_, _, !![1, 0; 2, 3], !![1, 0; 1, 1], rfl, rfl,
    fun h => by simpa using congrFun (congrFun h 0) 0,
    fun h => by simpa using congrFun (congrFun h 0) 0⟩

lemma C10.lower_antisymm_eq_zero {n : Type*} [LinearOrder n] (M : Matrix n n ℝ)
    (hM : M.IsLowerTriangular) (hs : M + Mᵀ = 0) : M = 0 := by
  have hij : ∀ i j, M i j + M j i = 0 := fun i j => congrFun (congrFun hs i) j
  ext i j
  rcases lt_trichotomy i j with h | rfl | h
  · exact hM h
  · exact add_self_eq_zero.mp (hij i i)
  · have := hij i j
    rwa [hM h, add_zero] at this

/-- C10 (uniqueness of the Cholesky derivative).  If `L` is lower triangular with non-zero diagonal
    entries then the first-order equation `dL Lᵀ + L dLᵀ = dA` has at most one lower-triangular
    solution `dL`: the fluctuation of the Cholesky factor is determined by the fluctuation of `A`. -/
theorem c10_cholesky_derivative_unique {n : Type*} [Fintype n] [DecidableEq n] [LinearOrder n]
    (L dA dL₁ dL₂ : Matrix n n ℝ)
    (hL : L.IsLowerTriangular) (hdiag : ∀ i, L i i ≠ 0)
    (h₁t : dL₁.IsLowerTriangular) (h₂t : dL₂.IsLowerTriangular)
    (h₁ : dL₁ * Lᵀ + L * dL₁ᵀ = dA) (h₂ : dL₂ * Lᵀ + L * dL₂ᵀ = dA) :
    dL₁ = dL₂ := by
  have hdet : IsUnit L.det := by
    rw [Matrix.det_of_isLowerTriangular L hL, isUnit_iff_ne_zero]
    exact Finset.prod_ne_zero_iff.mpr fun i _ => hdiag i
  have hu : IsUnit L := (Matrix.isUnit_iff_isUnit_det L).mpr hdet
  have : Invertible L := Matrix.invertibleOfIsUnitDet L hdet
  -- with `dL₁ - dL₂ = L M` the difference of the two equations reads `L (M + Mᵀ) Lᵀ = 0`, and `M` is lower triangular
  set M := L⁻¹ * (dL₁ - dL₂) with hM
  have hMt : M.IsLowerTriangular := (Matrix.blockTriangular_inv_of_blockTriangular hL).mul (h₁t.sub h₂t)
  have hDM : dL₁ - dL₂ = L * M := by rw [hM, Matrix.mul_nonsing_inv_cancel_left _ _ hdet]
  have e : L * (M + Mᵀ) * Lᵀ = 0 := by
    rw [Matrix.mul_add, Matrix.add_mul, Matrix.mul_assoc L Mᵀ, ← Matrix.transpose_mul, ← hDM, Matrix.transpose_sub,
      Matrix.sub_mul, Matrix.mul_sub, sub_add_sub_comm, h₁, h₂, sub_self]
  have hMs : M + Mᵀ = 0 := hu.mul_right_eq_zero.mp (((Matrix.isUnit_transpose L).mpr hu).mul_left_eq_zero.mp e)
  exact sub_eq_zero.mp (by rw [hDM, lower_antisymm_eq_zero M hMt hMs, Matrix.mul_zero])

/-- non-vacuity: `L = [[1,0],[2,3]]` is lower triangular with non-zero diagonal -/
example : (!![1, 0; 2, 3] : Matrix (Fin 2) (Fin 2) ℝ).IsLowerTriangular ∧
    ∀ i, (!![1, 0; 2, 3] : Matrix (Fin 2) (Fin 2) ℝ) i i ≠ 0 := by
  refine ⟨fun i j h => ?_, fun i => ?_⟩
  · have h' : i < j := h
    obtain ⟨rfl, rfl⟩ : i = 0 ∧ j = 1 := by omega
    rfl
  · fin_cases i <;> norm_num

lemma C10.det_updateCol_eq_sum {n : Type*} [Fintype n] [DecidableEq n] (A : Matrix n n ℝ) (i : n)
    (b : n → ℝ) :
    (A.updateCol i b).det =
      ∑ σ : Equiv.Perm n, (Equiv.Perm.sign σ : ℝ) *
        ((∏ j ∈ Finset.univ.erase i, A (σ j) j) * b (σ i)) := by
  rw [Matrix.det_apply']
  refine Finset.sum_congr rfl fun σ _ => ?_
  congr 1
  rw [← Finset.mul_prod_erase Finset.univ _ (Finset.mem_univ i), Matrix.updateCol_self, mul_comm]
  congr 1
  refine Finset.prod_congr rfl fun j hj => ?_
  rw [Matrix.updateCol_ne (Finset.ne_of_mem_erase hj)]

lemma C10.trace_adjugate_mul_eq_sum_det {n : Type*} [Fintype n] [DecidableEq n]
    (A dA : Matrix n n ℝ) :
    Matrix.trace (A.adjugate * dA) = ∑ i, (A.updateCol i (fun k => dA k i)).det := by
  unfold Matrix.trace
  refine Finset.sum_congr rfl fun i _ => ?_
  rw [← Matrix.cramer_apply, Matrix.cramer_eq_adjugate_mulVec]
  rfl

lemma C10.hasDerivAt_prod_affine {ι : Type*} [Fintype ι] [DecidableEq ι] (a b : ι → ℝ) :
    HasDerivAt (fun t : ℝ => ∏ i, (a i + t * b i)) (∑ i, (∏ j ∈ Finset.univ.erase i, a j) * b i) 0 := by
  have := HasDerivAt.fun_finsetProd (u := Finset.univ) (f := fun i (t : ℝ) => a i + t * b i) (f' := b)
    (x := (0 : ℝ)) fun i _ => (hasDerivAt_mul_const (x := (0 : ℝ)) (b i)).const_add (a i)
  simpa only [zero_mul, add_zero, smul_eq_mul] using this

/-- C10 (Jacobi's formula, general size): `d(det A) = tr(adj(A) dA)`, without assuming `A` invertible.
    Backs `linalg.det` (fluctuation of the determinant). -/
theorem c10_det_derivative {n : Type*} [Fintype n] [DecidableEq n] (A dA : Matrix n n ℝ) :
    HasDerivAt (fun t : ℝ => (A + t • dA).det) (Matrix.trace (A.adjugate * dA)) 0 := by
  -- Leibniz: `det (A + t dA) = Σ_σ sign σ ∏_i (A (σ i) i + t dA (σ i) i)`, a sum of products of affine functions
  have hfun (t : ℝ) := Matrix.det_apply' (A + t • dA)
  simp only [Matrix.add_apply, Matrix.smul_apply, smul_eq_mul] at hfun
  rw [funext hfun]
  refine (HasDerivAt.fun_sum fun σ _ =>
    (hasDerivAt_prod_affine (fun i => A (σ i) i) fun i => dA (σ i) i).const_mul _).congr_deriv ?_
  -- its derivative `Σ_σ sign σ Σ_i (∏_{j ≠ i} A (σ j) j) dA (σ i) i`, summed over `σ` first, is the sum of the
  -- determinants of `A` with column `i` taken from `dA`
  rw [trace_adjugate_mul_eq_sum_det]
  simp_rw [det_updateCol_eq_sum, Finset.mul_sum]
  exact Finset.sum_comm

/-- C10 (Jacobi's formula as a `deriv` statement). -/
theorem c10_det_derivative_deriv {n : Type*} [Fintype n] [DecidableEq n] (A dA : Matrix n n ℝ) :
    deriv (fun t : ℝ => (A + t • dA).det) 0 = Matrix.trace (A.adjugate * dA) :=
  (c10_det_derivative A dA).deriv

lemma C10.eval_eq_linear_add_sq (q : Polynomial ℝ) (t : ℝ) :
    q.eval t = q.coeff 0 + t * q.coeff 1 + t ^ 2 * q.divX.divX.eval t := by
  have e1 := congrArg (Polynomial.eval t) (Polynomial.divX_mul_X_add q)
  have e2 := congrArg (Polynomial.eval t) (Polynomial.divX_mul_X_add q.divX)
  simp only [Polynomial.eval_add, Polynomial.eval_mul, Polynomial.eval_X, Polynomial.eval_C,
    Polynomial.coeff_divX, zero_add] at e1 e2
  linear_combination (-1 : ℝ) * e1 - t * e2

/-- C10 (Jacobi's formula with explicit remainder): the first-order expansion of the determinant holds for every `t`
    with a remainder `t² p(t)`, `p` a polynomial. -/
theorem c10_det_derivative_expansion {n : Type*} [Fintype n] [DecidableEq n]
    (A dA : Matrix n n ℝ) :
    ∃ p : Polynomial ℝ, ∀ t : ℝ,
      (A + t • dA).det = A.det + t * Matrix.trace (A.adjugate * dA) + t ^ 2 * p.eval t := by
  set q : Polynomial ℝ :=
    (A.map Polynomial.C + (Polynomial.X : Polynomial ℝ) • dA.map Polynomial.C).det with hq
  have heval : ∀ t : ℝ, q.eval t = (A + t • dA).det := by
    intro t
    rw [hq, ← Polynomial.coe_evalRingHom, RingHom.map_det]
    congr 1
    ext i j
    simp only [RingHom.mapMatrix_apply, Polynomial.coe_evalRingHom, Matrix.map_apply, Matrix.add_apply,
      Matrix.smul_apply, smul_eq_mul, Polynomial.eval_add, Polynomial.eval_C, Polynomial.eval_mul, Polynomial.eval_X]
  have h0 : q.coeff 0 = A.det := by
    rw [Polynomial.coeff_zero_eq_eval_zero, heval, zero_smul, add_zero]
  have h1 : q.coeff 1 = Matrix.trace (A.adjugate * dA) := by
    have hd := q.hasDerivAt 0
    have hfun : (fun x => Polynomial.eval x q) = fun t : ℝ => (A + t • dA).det := funext heval
    rw [hfun] at hd
    rw [← hd.unique (c10_det_derivative A dA)]
    simp only [← Polynomial.coeff_zero_eq_eval_zero, Polynomial.coeff_derivative, zero_add,
      Nat.cast_zero, mul_one]
  exact ⟨q.divX.divX, fun t => by rw [← heval, ← h0, ← h1, eval_eq_linear_add_sq]⟩

/-- C10 (Jacobi's formula, 2×2, exact expansion).  `det (A + t dA) = det A + t tr(adj(A) dA)
    + t² det dA` for 2×2 real matrices. -/
theorem c10_det_derivative_two (A dA : Matrix (Fin 2) (Fin 2) ℝ) (t : ℝ) :
    (A + t • dA).det = A.det + t * Matrix.trace (A.adjugate * dA) + t ^ 2 * dA.det := by
  simp only [Matrix.det_fin_two, Matrix.trace_fin_two, Matrix.adjugate_fin_two, Matrix.mul_apply,
    Fin.sum_univ_two, Matrix.add_apply, Matrix.smul_apply, smul_eq_mul, Matrix.of_apply, Matrix.cons_val_zero,
    Matrix.cons_val_one, Matrix.cons_val', Matrix.cons_val_fin_one]
  ring

/-- C10 (first-order eigenvalue perturbation, general form).  If `A` is symmetric, `A v = λ v`,
    `vᵀ v = 1` and `(dλ, dv)` satisfy the first-order eigen-equation
    `dA v + A dv = dλ v + λ dv`, then `dλ = vᵀ dA v`.  The gauge condition `vᵀ dv = 0` is not needed. -/
theorem c10_eigh_first_order' {n : Type*} [Fintype n]
    (A dA : Matrix n n ℝ) (v dv : n → ℝ) (lam dlam : ℝ)
    (hsym : Aᵀ = A) (hev : A *ᵥ v = lam • v) (hnorm : v ⬝ᵥ v = 1)
    (hfo : dA *ᵥ v + A *ᵥ dv = dlam • v + lam • dv) :
    dlam = v ⬝ᵥ (dA *ᵥ v) := by
  have h1 : v ⬝ᵥ (A *ᵥ dv) = lam * (v ⬝ᵥ dv) := by
    rw [MatrixAlg.bilin_symm hsym, hev, dotProduct_smul, smul_eq_mul, dotProduct_comm]
  have h2 := congrArg (fun w => v ⬝ᵥ w) hfo
  simp only [dotProduct_add, dotProduct_smul, smul_eq_mul, hnorm, h1, mul_one] at h2
  exact (add_right_cancel h2).symm

/-- C10 (first-order eigenvalue perturbation), with the gauge condition `vᵀ dv = 0` of first-order perturbation theory
    among the hypotheses: the fluctuation of an eigenvalue is the quadratic form of the fluctuation of the matrix on
    the eigenvector.  Backs the eigenvalues of `linalg.eigh`. -/
theorem c10_eigh_first_order {n : Type*} [Fintype n]
    (A dA : Matrix n n ℝ) (v dv : n → ℝ) (lam dlam : ℝ)
    (hsym : Aᵀ = A) (hev : A *ᵥ v = lam • v) (hnorm : v ⬝ᵥ v = 1)
    (hfo : dA *ᵥ v + A *ᵥ dv = dlam • v + lam • dv) (_hgauge : v ⬝ᵥ dv = 0) :
    dlam = v ⬝ᵥ (dA *ᵥ v) :=
  c10_eigh_first_order' A dA v dv lam dlam hsym hev hnorm hfo

/-- non-vacuity: `A = diag(1,2)`, `v = e₀`, `λ = 1`, `dA = [[5,1],[1,7]]`; first order theory gives
    `dλ = 5`, `dv = (0,-1)` -/
example : ∃ (A dA : Matrix (Fin 2) (Fin 2) ℝ) (v dv : Fin 2 → ℝ) (lam dlam : ℝ),
    Aᵀ = A ∧ A *ᵥ v = lam • v ∧ v ⬝ᵥ v = 1 ∧
    dA *ᵥ v + A *ᵥ dv = dlam • v + lam • dv ∧ v ⬝ᵥ dv = 0 ∧ dlam = 5 := by
  refine ⟨!![1, 0; 0, 2], !![5, 1; 1, 7], ![1, 0], ![0, -1], 1, 5, MatrixAlg.transpose_fin_two 1 0 0 2, ?_, ?_, ?_, ?_, rfl⟩
  · funext i; fin_cases i <;> simp [Matrix.mulVec, dotProduct]
  · simp
  · funext i; fin_cases i <;> norm_num
  · simp

/-- the identities of `c10_pinv_identity_first_order` from the invertibility of `AᵀA` alone -/
theorem c10_pinv_identity_first_order_of_isUnit {m n : Type*} [Fintype m] [Fintype n]
    [DecidableEq n] (A : Matrix m n ℝ) (h : IsUnit (Aᵀ * A).det) :
    A * ((Aᵀ * A)⁻¹ * Aᵀ) * A = A ∧ ((Aᵀ * A)⁻¹ * Aᵀ) * A = 1 := by
  have h1 := Matrix.nonsing_inv_mul _ h
  rw [← Matrix.mul_assoc] at h1
  exact ⟨by rw [Matrix.mul_assoc, h1, Matrix.mul_one], h1⟩

lemma C10.isUnit_det_transpose_mul_self {m n : Type*} [Fintype m] [Fintype n] [DecidableEq n]
    (A : Matrix m n ℝ) (h : Function.Injective A.mulVec) : IsUnit (Aᵀ * A).det := by
  have hpd := Matrix.PosDef.conjTranspose_mul_self A h
  rw [Matrix.conjTranspose_eq_transpose_of_trivial] at hpd
  exact (Matrix.isUnit_iff_isUnit_det _).mp hpd.isUnit

/-- C10 (Moore–Penrose pseudo-inverse of a full-column-rank matrix).  Full column rank is stated as injectivity of
    `x ↦ A x` (equivalently `rank A = n`); then `A⁺ := (AᵀA)⁻¹ Aᵀ` satisfies `A A⁺ A = A` and `A⁺ A = 1`.
    Backs `linalg.pinv`. -/
theorem c10_pinv_identity_first_order {m n : Type*} [Fintype m] [Fintype n] [DecidableEq n]
    (A : Matrix m n ℝ) (h : Function.Injective A.mulVec) :
    A * ((Aᵀ * A)⁻¹ * Aᵀ) * A = A ∧ ((Aᵀ * A)⁻¹ * Aᵀ) * A = 1 :=
  c10_pinv_identity_first_order_of_isUnit A (isUnit_det_transpose_mul_self A h)

/-- non-vacuity: the 3×2 matrix `[[1,0],[0,1],[1,1]]` has full column rank -/
example : Function.Injective (!![1, 0; 0, 1; 1, 1] : Matrix (Fin 3) (Fin 2) ℝ).mulVec := by
  intro x y hxy
  have h0 := congrFun hxy 0
  have h1 := congrFun hxy 1
  simp only [Matrix.mulVec, dotProduct, Fin.sum_univ_two] at h0 h1
  funext i; fin_cases i
  · simpa using h0
  · simpa using h1

/-- C10 (jackknife vs. linearised product).  For samples `a i = ā + δa i`, `b i = b̄ + δb i` with `Σ δa = Σ δb = 0` the mean
    of the products minus the product of the means is exactly `(1/N) Σ δa_i δb_i`: the jackknife-based product
    (`jack_matmul`) differs from the linearised product by a term of second order in the fluctuations and `O(1/N)`.
    `0 < N` is needed for the means to be defined. -/
theorem c10_jack_remainder {N : ℕ} (hN : 0 < N) (a b da db : Fin N → ℝ) (abar bbar : ℝ)
    (ha : ∀ i, a i = abar + da i) (hb : ∀ i, b i = bbar + db i)
    (hda : ∑ i, da i = 0) (hdb : ∑ i, db i = 0) :
    (∑ i, a i * b i) / N - ((∑ i, a i) / N) * ((∑ i, b i) / N) = (∑ i, da i * db i) / N := by
  have hN' : (N : ℝ) ≠ 0 := Nat.cast_ne_zero.mpr hN.ne'
  simp only [ha, hb, add_mul, mul_add, Finset.sum_add_distrib, ← Finset.mul_sum, ← Finset.sum_mul,
    hda, hdb, Finset.sum_const, Finset.card_univ, Fintype.card_fin, nsmul_eq_mul]
  field_simp
  ring

/-- non-vacuity: `N = 2`, `a = (1,3)`, `b = (5,1)`: means 2 and 3, fluctuations `(-1,1)`, `(2,-2)` -/
example : ∃ (a b da db : Fin 2 → ℝ) (abar bbar : ℝ),
    (∀ i, a i = abar + da i) ∧ (∀ i, b i = bbar + db i) ∧ ∑ i, da i = 0 ∧ ∑ i, db i = 0 ∧
    ∑ i, da i * db i ≠ 0 := by
  refine ⟨_, _, ![-1, 1], ![2, -2], 2, 3, fun _ => rfl, fun _ => rfl, ?_, ?_, ?_⟩ <;>
    norm_num [Fin.sum_univ_two]

end PV
