/-
  One-variable derivative facts in the form the gradient-site theorems of C01 need them: the derivative written the
  way the call sites of pyerrors write it.
-/
import Mathlib.Analysis.SpecialFunctions.Arcosh
import Mathlib.Analysis.SpecialFunctions.Arsinh
import Mathlib.Analysis.SpecialFunctions.Artanh
import Mathlib.Analysis.SpecialFunctions.Pow.Deriv
import Mathlib.Analysis.SpecialFunctions.Trigonometric.ArctanDeriv
import Mathlib.Analysis.SpecialFunctions.Trigonometric.InverseDeriv
import Mathlib.Analysis.Calculus.Deriv.Abs

namespace PV

namespace DerivFacts
variable (a c d : ℝ)

theorem add_const : HasDerivAt (fun t : ℝ => t + c) 1 a := (hasDerivAt_id' a).add_const c
theorem const_add : HasDerivAt (fun t : ℝ => c + t) 1 a := (hasDerivAt_id' a).const_add c
theorem sub_const : HasDerivAt (fun t : ℝ => t - c) 1 a := (hasDerivAt_id' a).sub_const c
theorem const_sub : HasDerivAt (fun t : ℝ => c - t) (-1) a := (hasDerivAt_id' a).const_sub c
theorem mul_const : HasDerivAt (fun t : ℝ => t * c) c a :=
  ((hasDerivAt_id' a).mul_const c).congr_deriv (one_mul c)
theorem const_mul : HasDerivAt (fun t : ℝ => c * t) c a :=
  ((hasDerivAt_id' a).const_mul c).congr_deriv (mul_one c)
theorem div_const : HasDerivAt (fun t : ℝ => t / c) (1 / c) a := (hasDerivAt_id' a).div_const c
theorem const_div (ha : a ≠ 0) : HasDerivAt (fun t : ℝ => c / t) (-c / a ^ (2 : ℝ)) a := by
  simpa only [div_eq_mul_inv, Real.rpow_two, neg_mul, mul_neg] using (hasDerivAt_inv ha).const_mul c
theorem rpow_const (ha : 0 < a) : HasDerivAt (fun t : ℝ => t ^ c) (c * a ^ (c - 1)) a :=
  Real.hasDerivAt_rpow_const (Or.inl ha.ne')
theorem const_rpow (hc : 0 < c) : HasDerivAt (fun t : ℝ => c ^ t) (c ^ a * Real.log c) a :=
  (Real.hasStrictDerivAt_const_rpow hc a).hasDerivAt
theorem sqrt (ha : 0 < a) : HasDerivAt (fun t : ℝ => Real.sqrt t) (1 / 2 / Real.sqrt a) a :=
  (Real.hasDerivAt_sqrt ha.ne').congr_deriv (by rw [div_div])
theorem log (ha : a ≠ 0) : HasDerivAt (fun t : ℝ => Real.log t) (1 / a) a :=
  (Real.hasDerivAt_log ha).congr_deriv (one_div a).symm
theorem tan (ha : Real.cos a ≠ 0) :
    HasDerivAt (fun t : ℝ => Real.tan t) (1 / Real.cos a ^ (2 : ℝ)) a :=
  (Real.hasDerivAt_tan ha).congr_deriv (by rw [Real.rpow_two])
theorem tanh : HasDerivAt (fun t : ℝ => Real.tanh t) (1 / Real.cosh a ^ (2 : ℝ)) a := by
  have h := (Real.hasDerivAt_sinh a).fun_div (Real.hasDerivAt_cosh a) (Real.cosh_pos a).ne'
  rw [show (fun t : ℝ => Real.tanh t) = fun t => Real.sinh t / Real.cosh t from funext Real.tanh_eq_sinh_div_cosh]
  refine h.congr_deriv ?_
  rw [Real.rpow_two, ← Real.cosh_sq_sub_sinh_sq a]
  ring
theorem abs (ha : a ≠ 0) : HasDerivAt (fun t : ℝ => |t|) (a / |a|) a :=
  (hasDerivAt_abs ha).congr_deriv (eq_div_of_mul_eq (abs_ne_zero.mpr ha) (sign_mul_abs a))
theorem arcsin (h1 : -1 < a) (h2 : a < 1) :
    HasDerivAt (fun t : ℝ => Real.arcsin t) (1 / Real.sqrt (1 - a * a)) a :=
  (Real.hasDerivAt_arcsin h1.ne' h2.ne).congr_deriv (by rw [sq])
theorem arccos (h1 : -1 < a) (h2 : a < 1) :
    HasDerivAt (fun t : ℝ => Real.arccos t) (-(1 / Real.sqrt (1 - a * a))) a :=
  (Real.hasDerivAt_arccos h1.ne' h2.ne).congr_deriv (by rw [sq])
theorem arctan : HasDerivAt (fun t : ℝ => Real.arctan t) (1 / (1 + a * a)) a :=
  (Real.hasDerivAt_arctan a).congr_deriv (by rw [sq])
theorem arsinh : HasDerivAt (fun t : ℝ => Real.arsinh t) (1 / Real.sqrt (a * a + 1)) a :=
  (Real.hasDerivAt_arsinh a).congr_deriv (by rw [sq, one_div, add_comm])
theorem arcosh (ha : 1 < a) :
    HasDerivAt (fun t : ℝ => Real.arcosh t) (1 / Real.sqrt (a * a - 1)) a :=
  (Real.hasDerivAt_arcosh ha).congr_deriv (by rw [sq, one_div])
theorem artanh (h1 : -1 < a) (h2 : a < 1) :
    HasDerivAt (fun t : ℝ => Real.artanh t) (1 / (1 - a * a)) a := by
  have hp : 0 < 1 + a := neg_lt_iff_pos_add'.mp h1
  have hm : 0 < 1 - a := sub_pos.mpr h2
  have hq : 0 < (1 + a) / (1 - a) := div_pos hp hm
  -- `Real.artanh t` unfolds to `Real.log √((1 + t) / (1 - t))`
  refine ((((const_add a 1).fun_div (const_sub a 1) hm.ne').sqrt hq.ne').log (Real.sqrt_pos.mpr hq).ne').congr_deriv ?_
  rw [div_div, mul_assoc, Real.mul_self_sqrt hq.le, show 1 - a * a = (1 - a) * (1 + a) by ring]
  field_simp
  ring

end DerivFacts

end PV
