/-
  Γ by configuration number: `_expand_deltas` puts the fluctuation of configuration `first + j·gap` at position `j`
  and zero where the chain has none (`expandDeltas_getD`), so the shifted dot product of `_calc_gamma` is the pair sum
  of the specification (`dot_shift_eq_gammaRep`), and on a chain of ones the pair count.  The first part - pointwise
  sums of lists (`foldl_addLists`) and a scatter read by configuration number (`scatter_fluct`, with the position map a
  variable) - also serves `_expand_deltas_for_merge` in DerivedLemmas.
-/
import Mathlib.Data.List.GetD
import PV.Proofs.RealScalar
import PV.Proofs.Basic
import PV.Proofs.RLength
import PV.Spec.Wolff

namespace PV
open Scalar PV.RealS

theorem getD_addLists {a b : List ℝ} (h : a.length = b.length) (k : Nat) :
    (addLists a b).getD k 0 = a.getD k 0 + b.getD k 0 := by
  simpa only [addLists, add_zero] using getD_zipWith (f := (· + ·)) h k (0 : ℝ) 0

theorem foldl_addLists {ps : List (List ℝ)} {p : List ℝ} (h : ∀ q ∈ ps, q.length = p.length) :
    (ps.foldl addLists p).length = p.length ∧
    ∀ k, (ps.foldl addLists p).getD k 0 = p.getD k 0 + (ps.map (·.getD k 0)).sum := by
  induction ps generalizing p with
  | nil => exact ⟨rfl, fun k => (add_zero _).symm⟩
  | cons q qs ih =>
    have hq := h q List.mem_cons_self
    have hlen : (addLists p q).length = p.length := by rw [addLists, List.length_zipWith, hq, Nat.min_self]
    obtain ⟨h1, h2⟩ := ih (p := addLists p q) fun q' hq' => hlen ▸ h q' (List.mem_cons_of_mem _ hq')
    refine ⟨h1.trans hlen, fun k => ?_⟩
    rw [List.foldl_cons, h2, getD_addLists hq.symm, List.map_cons, List.sum_cons, add_assoc]

theorem scatter_getD_of_not_mem (f : Int → Nat) (P : List (Int × ℝ)) (init : List ℝ) (j : Nat)
    (h : ∀ p ∈ P, f p.1 ≠ j) :
    (P.foldl (fun acc (p : Int × ℝ) => acc.set (f p.1) p.2) init).getD j 0 = init.getD j 0 := by
  induction P generalizing init with
  | nil => rfl
  | cons p P ih =>
    rw [List.foldl_cons, ih _ (fun q hq => h q (List.mem_cons_of_mem _ hq))]
    rw [List.getD_eq_getElem?_getD, List.getElem?_set_ne (h p List.mem_cons_self), ← List.getD_eq_getElem?_getD]

theorem scatter_getD_of_mem (f : Int → Nat) (P : List (Int × ℝ)) (init : List ℝ) (j : Nat) (v : ℝ)
    (hex : ∃ q ∈ P, f q.1 = j) (hall : ∀ q ∈ P, f q.1 = j → q.2 = v) (hlt : j < init.length) :
    (P.foldl (fun acc (p : Int × ℝ) => acc.set (f p.1) p.2) init).getD j 0 = v := by
  induction P generalizing init with
  | nil => exact absurd hex (by simp)
  | cons q P ih =>
    rw [List.foldl_cons]
    by_cases hP : ∃ q' ∈ P, f q'.1 = j
    · exact ih _ hP (fun q' hq' => hall q' (List.mem_cons_of_mem _ hq')) (by simpa using hlt)
    · obtain ⟨q', hq', hj⟩ := hex
      obtain rfl : q' = q := (List.mem_cons.mp hq').resolve_right fun h => hP ⟨q', h, hj⟩
      rw [scatter_getD_of_not_mem f P _ j fun p hp he => hP ⟨p, hp, he⟩, ← hall q' (by simp) hj, ← hj]
      simp [List.getD_eq_getElem?_getD, hj, hlt]

theorem Spec.fluct_getElem {r : Rep ℝ} (hpw : r.idl.toList.Pairwise (· < ·)) {k : Nat} (hk : k < r.idl.toList.length) :
    Spec.fluct r r.idl.toList[k] = r.deltas.getD k 0 := by
  simp only [Spec.fluct, Idl.pos?_getElem hpw hk, ofNat_eq_lit, lit_eq, Nat.cast_zero]

theorem Spec.fluct_of_not_mem {r : Rep ℝ} {c : Int} (hc : c ∉ r.idl.toList) : Spec.fluct r c = 0 := by
  simp only [Spec.fluct, Idl.pos?_eq_none hc, ofNat_eq_lit, lit_eq, Nat.cast_zero]

theorem scatter_fluct (r : Rep ℝ) (f : Int → Nat) (size : Nat) (hpw : r.idl.toList.Pairwise (· < ·))
    (hlen : r.deltas.length = r.idl.toList.length) (hlt : ∀ c ∈ r.idl.toList, f c < size) (c : Int)
    (hinj : ∀ c' ∈ r.idl.toList, f c' = f c → c' = c) :
    ((List.zip r.idl.toList r.deltas).foldl (fun acc (p : Int × ℝ) => acc.set (f p.1) p.2)
        (List.replicate size 0)).getD (f c) 0 = Spec.fluct r c := by
  by_cases hmem : c ∈ r.idl.toList
  · obtain ⟨k, hk, rfl⟩ := List.mem_iff_getElem.mp hmem
    have hkd : k < r.deltas.length := hlen ▸ hk
    rw [Spec.fluct_getElem hpw hk, List.getD_eq_getElem _ _ hkd]
    refine scatter_getD_of_mem f _ _ _ _ ⟨(r.idl.toList[k], r.deltas[k]), ?_, rfl⟩ ?_ (by simpa using hlt _ hmem)
    · exact List.mem_iff_getElem.mpr ⟨k, by rw [List.length_zip]; exact lt_min hk hkd, List.getElem_zip⟩
    · intro q hq he
      obtain ⟨k', hk', rfl⟩ := List.mem_iff_getElem.mp hq
      rw [List.getElem_zip] at he ⊢
      have := (List.Nodup.getElem_inj_iff (hpw.imp ne_of_lt)).mp (hinj _ (List.getElem_mem _) he)
      subst this
      rfl
  · rw [Spec.fluct_of_not_mem hmem, scatter_getD_of_not_mem f]
    · rw [List.getD_eq_getElem?_getD, List.getElem?_getD_replicate_default_eq]
    · exact fun p hp he => hmem (hinj p.1 (List.of_mem_zip hp).1 he ▸ (List.of_mem_zip hp).1)

theorem Idl.slot_of_mem {i : Idl} (hpw : i.toList.Pairwise (· < ·)) {gap : Int} (hgap : 0 < gap) {c : Int}
    (hc : c ∈ i.toList) (hmod : (c - i.first) % gap = 0) :
    c = i.first + (i.slot gap c : Int) * gap ∧ (i.slot gap c : Int) < rLength i gap := by
  have h1 : i.first ≤ c := Idl.headD_le_of_pairwise hpw hc
  have h2 : c ≤ i.last := Idl.le_getLastD_of_pairwise hpw hc
  simp only [Idl.slot, rLength, Py.fdiv, Int.fdiv_eq_ediv_of_nonneg _ hgap.le]
  have hq : 0 ≤ (c - i.first) / gap := Int.ediv_nonneg (by omega) hgap.le
  have hle : (c - i.first) / gap ≤ (i.last - i.first) / gap := Int.ediv_le_ediv hgap (by omega)
  rw [Int.toNat_of_nonneg hq, Int.ediv_mul_cancel (Int.dvd_of_emod_eq_zero hmod)]
  exact ⟨by ring, by omega⟩

theorem Idl.slot_first_add (i : Idl) {gap : Int} (hgap : 0 < gap) (j : Nat) :
    i.slot gap (i.first + (j : Int) * gap) = j := by
  rw [Idl.slot, add_sub_cancel_left, Py.fdiv, Int.fdiv_eq_ediv_of_nonneg _ hgap.le, Int.mul_ediv_cancel _ hgap.ne']
  rfl

section chain
variable (r : Rep ℝ) (gap : Int) (hgap : 0 < gap) (hpw : r.idl.toList.Pairwise (· < ·))
include hgap hpw

/-- the `step == gap` branch of `_expand_deltas`: a range on the ensemble's spacing is its own expansion -/
theorem range_getD_fluct (s : Int) (n : Nat) (hr : r.idl = .range s n gap) (hlen : r.deltas.length = r.idl.len)
    (hpos : 0 < r.idl.len) (j : Nat) : r.deltas.getD j 0 = Spec.fluct r (r.idl.first + (j : Int) * gap) := by
  have hL : r.idl.toList = (List.range n).map (fun (k : Nat) => s + gap * (k : Int)) := by rw [hr]; rfl
  have hn : r.idl.len = n := by rw [hr]; exact Idl.length_toList_range s n gap
  rw [show r.idl.first = s by rw [hr]; exact Idl.range_first s n gap (by omega)]
  by_cases hj : j < n
  · have hk : j < r.idl.toList.length := by simp [hL, hj]
    have : r.idl.toList[j] = s + (j : Int) * gap := by simp [hL, mul_comm]
    rw [← this, Spec.fluct_getElem hpw hk]
  · rw [Spec.fluct_of_not_mem, List.getD_eq_getElem?_getD, List.getElem?_eq_none (by omega)]
    · rfl
    · simp only [hL, List.mem_map, List.mem_range, not_exists, not_and]
      intro k hk he
      exact hj (Int.natCast_inj.mp (Int.eq_of_mul_eq_mul_left hgap.ne' ((add_left_cancel he).trans (mul_comm _ _))) ▸ hk)

variable (hmod : ∀ c ∈ r.idl.toList, (c - r.idl.first) % gap = 0)
include hmod

theorem scatterE_getD (hlen : r.deltas.length = r.idl.len) (j : Nat) :
    (scatterE r.deltas r.idl gap).getD j 0 = Spec.fluct r (r.idl.first + (j : Int) * gap) := by
  have hj := r.idl.slot_first_add hgap j
  -- every configuration `c` sits at `first + idx·gap`, its position `idx` below the size of the array
  have := scatter_fluct r (r.idl.slot gap) (Py.fdiv (r.idl.last - r.idl.first + gap) gap).toNat hpw hlen
    (fun c hc => by
      have := (Idl.slot_of_mem hpw hgap hc (hmod c hc)).2
      rw [rLength, ← fdiv_add_self _ _ hgap] at this
      omega)
    (r.idl.first + (j : Int) * gap) fun c' hc' he => by rw [(Idl.slot_of_mem hpw hgap hc' (hmod c' hc')).1, he, hj]
  rw [hj] at this
  simpa only [scatterE, ofNat_eq_lit, lit_eq, Nat.cast_zero] using this

theorem expandDeltas_getD (hlen : r.deltas.length = r.idl.len) (hpos : 0 < r.idl.len) (j : Nat) :
    (expandDeltas r.deltas r.idl gap).getD j 0 = Spec.fluct r (r.idl.first + (j : Int) * gap) := by
  rcases expandDeltas_self_or_scatter r.deltas r.idl gap with ⟨s, n, hidl, h⟩ | h
  · rw [h]
    exact range_getD_fluct r gap hgap hpw s n hidl hlen hpos j
  · rw [h]
    exact scatterE_getD r gap hgap hpw hmod hlen j

theorem dot_shift_eq_gammaRep (d : List ℝ)
    (hval : ∀ j : Nat, d.getD j 0 = Spec.fluct r (r.idl.first + (j : Int) * gap))
    (hlen : (d.length : Int) = rLength r.idl gap) (t : Nat) :
    dot (d.take (d.length - t)) (d.drop t) = Spec.gammaRep r gap t := by
  rw [C06m.dot_eq_sum (d.length - t) _ _ (List.length_take_le _ _) List.length_drop.le,
    ← Finset.sum_range fun j => (d.take (d.length - t)).getD j 0 * (d.drop t).getD j 0]
  have h1 : ∑ j ∈ Finset.range (d.length - t),
        (d.take (d.length - t)).getD j 0 * (d.drop t).getD j 0
      = ∑ j ∈ Finset.range d.length, d.getD j 0 * d.getD (t + j) 0 := by
    -- entry by entry, then the range extended to `d.length`: the new terms have `t + j` beyond the end
    refine (Finset.sum_congr rfl fun j hj => ?_).trans
      (Finset.sum_subset (Finset.range_mono (Nat.sub_le _ _)) fun j _ hj => ?_)
    · simp only [List.getD_eq_getElem?_getD, List.getElem?_take, Finset.mem_range.mp hj, if_true, List.getElem?_drop]
    · rw [List.getD_eq_default (n := t + j) _ _ (by rw [Finset.mem_range] at hj; omega), mul_zero]
  rw [h1, Spec.gammaRep, sum_eq, ← List.sum_toFinset _ (hpw.imp ne_of_lt)]
  -- the sum over the configurations is the sum over their positions: distinct configurations have distinct
  -- positions, all below `d.length`, and a position that holds no configuration contributes nothing
  have hslot : ∀ c ∈ r.idl.toList.toFinset, _ := fun c hc =>
    Idl.slot_of_mem hpw hgap (List.mem_toFinset.mp hc) (hmod c (List.mem_toFinset.mp hc))
  refine (Finset.sum_of_injOn (r.idl.slot gap) (fun c hc c' hc' he => ?_)
    (fun c hc => ?_) (fun j _ hj => ?_) fun c hc => ?_).symm
  · rw [(hslot c hc).1, (hslot c' hc').1, he]
  · have := (hslot c hc).2
    exact Finset.mem_range.mpr (by omega)
  · rw [hval, Spec.fluct_of_not_mem fun hc => hj ⟨_, List.mem_toFinset.mpr hc, r.idl.slot_first_add hgap j⟩,
      zero_mul]
  · rw [hval, hval, Nat.cast_add, add_mul, ← add_assoc, add_right_comm, ← (hslot c hc).1]

end chain

theorem sum_map_indicator (l : List Int) (p : Int → Bool) :
    (l.map (fun c => if p c = true then (1 : ℝ) else 0)).sum = ((l.filter p).length : ℝ) := by
  rw [List.sum_map_ite, List.map_const', List.map_const', List.sum_replicate, List.sum_replicate, smul_zero, add_zero,
    nsmul_one]
  simp only [Bool.decide_eq_true]

theorem fluct_ones (r : Rep ℝ) (hlen : r.deltas = List.replicate r.idl.len 1) (c : Int) :
    Spec.fluct r c = if r.idl.toList.contains c = true then 1 else 0 := by
  by_cases hc : c ∈ r.idl.toList
  · have hlt : r.idl.toList.findIdx (· == c) < r.idl.len := List.findIdx_lt_length_of_exists ⟨c, hc, by simp⟩
    simp [Spec.fluct, Idl.pos?, hlen, hc, hlt, show r.idl.toList.findIdx (· == c) < r.idl.toList.length from hlt]
  · simp [Spec.fluct_of_not_mem hc, hc]

theorem gammaRep_ones (r : Rep ℝ) (gap : Int) (t : Nat)
    (hlen : r.deltas = List.replicate r.idl.len 1) :
    Spec.gammaRep r gap t = (Spec.pairsRep r gap t : ℝ) := by
  unfold Spec.gammaRep Spec.pairsRep
  rw [sum_eq, ← sum_map_indicator]
  congr 1
  refine List.map_congr_left ?_
  intro c hc
  rw [fluct_ones r hlen c, fluct_ones r hlen (c + (t : Int) * gap)]
  have : r.idl.toList.contains c = true := by simpa using hc
  rw [if_pos this, one_mul]

end PV
