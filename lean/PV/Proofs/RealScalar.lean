/-
  The `Scalar` / `Transc` / `Elem` structures on ℝ.  Their fields are literally Mathlib's operations (`<`, `≤` and the
  test for zero decided classically, `isNaN` constantly false), so theorems about the polymorphic models instantiated at
  ℝ are theorems about real arithmetic.  Below the instances: the models' own operations in Mathlib's terms (literals,
  `Scalar.sum`, `absS`, `isZero`, the guarded quotient), samples = mean + fluctuations for `PV.mean`, and the list
  inner product `Scalar.dot` as a finite sum.
-/
import Mathlib.Analysis.SpecialFunctions.Sqrt
import Mathlib.Analysis.SpecialFunctions.Trigonometric.Arctan
import Mathlib.Analysis.SpecialFunctions.Arsinh
import Mathlib.Analysis.SpecialFunctions.Arcosh
import Mathlib.Analysis.SpecialFunctions.Artanh
import Mathlib.Analysis.SpecialFunctions.Pow.Real
import PV.Model.Obs

open Classical in
noncomputable instance instScalarReal : Scalar ℝ where
  ofInt := fun i => (i : ℝ)
  decLt := fun _ _ => Classical.propDecidable _
  decLe := fun _ _ => Classical.propDecidable _
  isZero := fun a => decide (a = 0)
  isNaN := fun _ => false

noncomputable instance instTranscReal : Transc ℝ where
  sqrt := Real.sqrt
  log := Real.log
  exp := Real.exp

noncomputable instance instElemReal : Elem ℝ where
  sin := Real.sin
  cos := Real.cos
  tan := Real.tan
  sinh := Real.sinh
  cosh := Real.cosh
  tanh := Real.tanh
  arcsin := Real.arcsin
  arccos := Real.arccos
  arctan := Real.arctan
  arcsinh := Real.arsinh
  arccosh := Real.arcosh
  arctanh := Real.artanh
  pow := fun x y => x ^ y

namespace PV.RealS

/-! ### literals, `Scalar.sum`, `absS` in Mathlib's terms -/

/-- A numeral inside a generic model is `Scalar.lit n` (through `Scalar.instOfNatScalar`); the same digit in a statement typed
    over ℝ elaborates to Mathlib's numeral.  `𝟘` writes the model's zero where a statement about ℝ has to mention it;
    `ofNat_eq_lit` and `lit_eq` take the model's numerals to Mathlib's. -/
scoped notation "𝟘" => (@OfNat.ofNat ℝ 0 (Scalar.instOfNatScalar 0))

@[simp] theorem ofNat_eq_lit {α : Type} [Scalar α] (n : Nat) :
    (@OfNat.ofNat α n (Scalar.instOfNatScalar n)) = Scalar.lit n := rfl

@[simp] theorem lit_eq (n : Nat) : (Scalar.lit n : ℝ) = (n : ℝ) := Int.cast_natCast n

@[simp] theorem ofNatS_eq (n : Nat) : (Scalar.ofNatS n : ℝ) = (n : ℝ) := Int.cast_natCast n

@[simp] theorem sum_eq (l : List ℝ) : Scalar.sum l = l.sum := by
  induction l with
  | nil => exact Int.cast_zero
  | cons x xs ih => exact congrArg (x + ·) ih

@[simp] theorem absS_eq (x : ℝ) : Scalar.absS x = |x| := by
  have h0 : (@OfNat.ofNat ℝ 0 (Scalar.instOfNatScalar 0)) = 0 := Int.cast_zero
  rcases lt_or_ge x 0 with h | h
  · rw [Scalar.absS, h0, if_pos h, abs_of_neg h]
  · rw [Scalar.absS, h0, if_neg h.not_gt, abs_of_nonneg h]

/-! ### samples = mean + fluctuations -/

theorem mean_add_const (s : List ℝ) (c : ℝ) (hs : s ≠ []) : PV.mean (s.map (· + c)) = PV.mean s + c := by
  have hn : (s.length : ℝ) ≠ 0 := Nat.cast_ne_zero.mpr (mt List.length_eq_zero_iff.mp hs)
  simp only [PV.mean, sum_eq, ofNatS_eq, List.length_map]
  rw [List.sum_map_add, List.map_id', List.map_const', List.sum_replicate, nsmul_eq_mul, add_div,
    mul_div_cancel_left₀ _ hn]

theorem mean_shift {s : List ℝ} (c : ℝ) (hs : s ≠ []) (hz : s.sum = 0) : PV.mean (s.map (· + c)) = c := by
  rw [mean_add_const s c hs, PV.mean, sum_eq, hz, zero_div, zero_add]

theorem map_add_sub (s : List ℝ) (c : ℝ) : (s.map (· + c)).map (· - c) = s := by
  rw [List.map_map]
  exact List.map_id'' (fun x => add_sub_cancel_right x c) s

/-! ### the test for zero -/

theorem isZero_iff (x : ℝ) : Scalar.isZero x = true ↔ x = 0 := by
  simp [Scalar.isZero]

/-- the quotient that the model guards against `0 / 0` is the real quotient -/
theorem ite_isZero_div (g s : ℝ) : (if Scalar.isZero g then 0 else g / s) = g / s :=
  ite_eq_right_iff.2 fun h => by rw [(isZero_iff g).1 h, zero_div]

example : (2 : ℝ) * 3 = 6 := by norm_num

/-- literal test: the `2` inside a generic model becomes the real number 2 -/
example (x : ℝ) : (@HMul.hMul ℝ ℝ ℝ _ (@OfNat.ofNat ℝ 2 (Scalar.instOfNatScalar 2)) x) = 2 * x := by
  simp

end PV.RealS

/-! ### the list inner product `Scalar.dot` -/

namespace PV.C06m
open Scalar PV.RealS

theorem dot_nil_left (b : List ℝ) : dot [] b = 0 := by
  simp only [dot, ofNat_eq_lit, lit_eq, Nat.cast_zero]

theorem dot_nil_right (a : List ℝ) : dot a [] = 0 := by
  cases a <;> simp only [dot, ofNat_eq_lit, lit_eq, Nat.cast_zero]

/-- `dot` stops at the shorter list; beyond it the padded product vanishes as well -/
theorem dot_eq_sum : ∀ (L : Nat) (a b : List ℝ), a.length ≤ L → b.length ≤ L →
    dot a b = ∑ k : Fin L, a.getD k 0 * b.getD k 0
  | _, [], _, _, _ => by simp only [dot_nil_left, List.getD_nil, zero_mul, Finset.sum_const_zero]
  | _, _ :: _, [], _, _ => by simp only [dot_nil_right, List.getD_nil, mul_zero, Finset.sum_const_zero]
  | L + 1, x :: xs, y :: ys, ha, hb => by
    rw [Fin.sum_univ_succ, dot, dot_eq_sum L xs ys (Nat.le_of_succ_le_succ ha) (Nat.le_of_succ_le_succ hb)]
    rfl

end PV.C06m
