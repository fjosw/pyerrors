/-
  PV.Model.Gamma — `Obs.gamma_method` (obs.py 178-342), `_calc_gamma` (346-380, direct
  branch), `_expand_deltas` (1065-1088), `_determine_gap` (1841-1853).

  The FFT branch of `_calc_gamma` is not modelled separately: its contract is "equals the
  direct branch" and the correspondence check measures it on every case.
-/
import PV.Model.Obs

namespace PV
open Scalar

variable {α : Type}

/-- constants of the floating-point environment that appear in the code -/
structure FpConsts (α : Type) where
  tenTiny : α      -- `10 * np.finfo(float).tiny`
  eps : α          -- `np.finfo(np.float64).eps`
  half : α         -- 0.5

def fpFloat : FpConsts Float := { tenTiny := 2.2250738585072014e-307, eps := 2.220446049250313e-16, half := 0.5 }

inductive GmErr | noCommonSpacing (ens : String) | tauExpTooShort | negativeParam
  deriving Repr, BEq

section
variable [Scalar α]

/-- spacing of one chain: `range.step`, or `np.gcd.reduce(np.diff(list))` -/
def repGap (i : Idl) : Int :=
  match i with
  | .range _ _ st => st
  | .list l => ((Idl.diffs l).foldl (fun g d => Nat.gcd g d.natAbs) 0 : Nat)

/-- `_determine_gap` -/
def determineGap (ens : String) (reps : List (Rep α)) : Except GmErr Int :=
  let gaps := reps.map (fun r => repGap r.idl)
  let gap := gaps.foldl min (gaps.headD 1)
  if gaps.all (fun g => Py.fmod g gap == 0) then .ok gap else .error (.noCommonSpacing ens)

/-- `r_length` entry of one chain: the length of the expanded array, `(last - first) // gap + 1`, for ranges and
    lists alike (a range whose stride is a multiple k > 1 of the ensemble's spacing used to be counted as
    `len * k`, k - 1 phantom steps behind its last configuration) -/
def rLength (i : Idl) (gap : Int) : Int :=
  Py.fdiv (i.last - i.first) gap + 1

/-- `_expand_deltas` -/
def expandDeltas (deltas : List α) (idx : Idl) (gap : Int) : List α :=
  match idx with
  | .range _ _ st => if st == gap then deltas else
      let size := (Py.fdiv (idx.last - idx.first + gap) gap).toNat
      (List.zip idx.toList deltas).foldl
        (fun acc (c, d) => acc.set (Py.fdiv (c - idx.first) gap).toNat d) (List.replicate size 0)
  | .list _ =>
      let size := (Py.fdiv (idx.last - idx.first + gap) gap).toNat
      (List.zip idx.toList deltas).foldl
        (fun acc (c, d) => acc.set (Py.fdiv (c - idx.first) gap).toNat d) (List.replicate size 0)

/-- `_calc_gamma(..., fft=False)`: entry `n` is `deltas[0:N-n] . deltas[n:N]` -/
def calcGamma (deltas : List α) (idx : Idl) (wmax : Nat) (gap : Int) : List α :=
  let d := expandDeltas deltas idx gap
  (List.range wmax).map (fun n => dot (d.take (d.length - n)) (d.drop n))

def addL (a b : List α) : List α := List.zipWith (· + ·) a b

/-- `_compute_drho(i)` with the four Python slices transcribed literally
    (obs.py 284-289); the square root is applied by the caller -/
def drhoSq (rho : List α) (wmax : Nat) (eN : α) (i : Nat) : α :=
  let w : Int := wmax
  let I : Int := i
  let a := Py.slice rho (some (I + 1)) (some w)
  let stopB : Option Int := if I - (w - 1) / 2 ≤ 0 then none else some (2 * I - (2 * w) / 2)
  let b1 := Py.slice rho (some (I - 1)) stopB (-1)
  let b2 := Py.slice rho (some 1) (some (max 1 (w - 2 * I)))
  let c := Py.slice rho (some 1) (some (w - I))
  let ri := rho.getD i 0
  let tmp := List.zipWith (fun x y => x - y)
      (List.zipWith (· + ·) a (b1 ++ b2)) (c.map (fun x => 2 * ri * x))
  sum (tmp.map (fun x => x * x)) / eN
end

section
variable [Scalar α]

/-- `for n in range(1, w_max): if g_w[n - 1] < 0 or n >= w_max - 1: ...; break`
    (obs.py 319-327): the `n` at which the loop breaks, `none` if it runs out -/
def windowLoop (gw : List α) (wmax : Nat) : (fuel : Nat) → (n : Nat) → Option Nat
  | 0, _ => none
  | fuel + 1, n =>
    if gw.getD (n - 1) 0 < 0 ∨ n + 1 ≥ wmax then some n else windowLoop gw wmax fuel (n + 1)

/-- the `tau_exp` loop (obs.py 297-307): `_compute_drho(n + 1)` is stored, then the test uses the
    stored `e_drho[n]`; returns the breaking `n` and the final `e_drho` array -/
def texpLoop (rho : List α) (nSigma : α) (drhoAt : Nat → α) (wmax : Nat) :
    (fuel : Nat) → (n : Nat) → (drho : List α) → Option (Nat × List α)
  | 0, _, _ => none
  | fuel + 1, n, drho =>
    let drho := drho.set (n + 1) (drhoAt (n + 1))
    if rho.getD n 0 - nSigma * drho.getD n 0 < 0 ∨ (n : Int) ≥ ((wmax / 2 : Nat) : Int) - 2 then
      some (n, drho)
    else texpLoop rho nSigma drhoAt wmax fuel (n + 1) drho

/-- smallest |x| over a list, starting from 1 (conditioning of the window decision) -/
def minAbs (l : List α) : α := l.foldl (fun a b => if absS b < a then absS b else a) 1

end

/-- per-ensemble result of the analysis -/
structure EnsResult (α : Type) where
  ens : String
  tauint : α
  dtauint : α
  dvalue : α
  ddvalue : α
  windowsize : Nat
  rho : List α
  drho : List α
  nTauint : List α
  nDtauint : List α
  /-- margin of the comparison that decided the window (for conditioning, not compared) -/
  margin : α
  deriving Repr

structure GmResult (α : Type) where
  dvalue : α
  ddvalue : α
  ens : List (EnsResult α)
  covErr : List (String × α)
  deriving Repr

structure GmParams (α : Type) where
  S : String → α
  tauExp : String → α
  nSigma : String → α

section
variable [Transc α]
open Transc

def cumsum : List α → List α
  | [] => []
  | x :: xs => x :: (cumsum xs).map (x + ·)

/-- analysis of one ensemble -/
def gammaEnsemble (fp : FpConsts α) (ens : String) (reps : List (Rep α))
    (S tauExp nSigma : α) : Except GmErr (EnsResult α) := do
  let gap ← determineGap ens reps
  let rl := reps.map (fun r => rLength r.idl gap)
  let eNn : Nat := (reps.map (·.idl.len)).foldr (· + ·) 0
  let eN : α := ofNatS eNn
  let wmax : Nat := (Py.fdiv (rl.foldl max 0) 2).toNat
  let zero : List α := List.replicate wmax 0
  let gam0 := reps.foldl (fun acc r => addL acc (calcGamma r.deltas r.idl wmax gap)) zero
  let div0 := reps.foldl (fun acc r =>
      addL acc (calcGamma (List.replicate r.idl.len (1 : α)) r.idl wmax gap)) zero
  let div := div0.map (fun x => if x < 1 then 1 else x)
  let gamma := List.zipWith (· / ·) gam0 div
  let g0 := gamma.getD 0 0
  if absS g0 < fp.tenTiny then
    return { ens := ens, tauint := fp.half, dtauint := 0, dvalue := 0, ddvalue := 0, windowsize := 0,
             rho := zero, drho := zero, nTauint := [], nDtauint := [], margin := 1 }
  let rho := gamma.map (· / g0)
  let nTau0 := cumsum (fp.half :: rho.drop 1)
  let nTau := nTau0.map (fun x => if x ≤ fp.half then fp.half + fp.eps else x)
  let nDtau0 := (List.zip (List.range wmax) nTau).map (fun (i, t) =>
      t * 2 * sqrt (absS (ofNatS i + fp.half - t) / eN))
  let nDtau := nDtau0.set 0 0
  let drhoAt (i : Nat) : α := sqrt (drhoSq rho wmax eN i)
  let biasTau (n : Nat) : α := nTau.getD n 0 * (1 + (2 * ofNatS n + 1) / eN) / (1 + 1 / eN)
  if 0 < tauExp then
    -- critical slowing down analysis (obs.py 291-307)
    let drho1 := zero.set 1 (drhoAt 1)
    if wmax / 2 ≤ 1 then throw .tauExpTooShort
    match texpLoop rho nSigma drhoAt wmax (wmax / 2 - 1) 1 drho1 with
    | none => throw .tauExpTooShort   -- unreachable: `n >= w_max // 2 - 2` is met first
    | some (n, drho) =>
      let tau := biasTau n + tauExp * absS (rho.getD (n + 1) 0)
      let dtau := sqrt (nDtau.getD n 0 * nDtau.getD n 0
                        + tauExp * tauExp * (drho.getD (n + 1) 0 * drho.getD (n + 1) 0))
      let dv := sqrt (2 * tau * g0 * (1 + 1 / eN) / eN)
      return { ens := ens, tauint := tau, dtauint := dtau, dvalue := dv,
               ddvalue := dv * sqrt ((ofNatS n + fp.half) / eN), windowsize := n,
               rho := rho, drho := drho, nTauint := nTau, nDtauint := nDtau,
               margin := minAbs ((List.range n).map (fun k => rho.getD (k + 1) 0 - nSigma * drhoAt (k + 1))) }
  else if isZero S then
    let dv := sqrt (g0 / (eN - 1))
    return { ens := ens, tauint := fp.half, dtauint := 0, dvalue := dv,
             ddvalue := dv * sqrt (fp.half / eN), windowsize := 0,
             rho := rho, drho := zero, nTauint := nTau, nDtauint := nDtau, margin := 1 }
  else
    -- automatic windowing (obs.py 317-327)
    let tau : List α := (nTau.drop 1).map (fun t => S / log ((2 * t + 1) / (2 * t - 1)))
    let gw : List α := (List.zip (List.range tau.length) tau).map (fun (k, t) =>
        exp (-(ofNatS (k + 1)) / t) - t / sqrt (ofNatS (k + 1) * eN))
    match windowLoop gw wmax (wmax - 1) 1 with
    | none => throw .tauExpTooShort   -- `range(1, w_max)` empty: no result attribute is set
    | some n =>
      let tauB := biasTau n
      let dv := sqrt (2 * tauB * g0 * (1 + 1 / eN) / eN)
      return { ens := ens, tauint := tauB, dtauint := nDtau.getD n 0, dvalue := dv,
               ddvalue := dv * sqrt ((ofNatS n + fp.half) / eN), windowsize := n,
               rho := rho, drho := zero.set n (drhoAt n), nTauint := nTau, nDtauint := nDtau,
               margin := minAbs (gw.take n) }

/-- the first half of `gammaEnsemble`: the normalised autocorrelation table (same text as above) -/
def gammaTable (reps : List (Rep α)) (wmax : Nat) (gap : Int) : List α :=
  let zero : List α := List.replicate wmax 0
  let gam0 := reps.foldl (fun acc r => addL acc (calcGamma r.deltas r.idl wmax gap)) zero
  let div0 := reps.foldl (fun acc r =>
      addL acc (calcGamma (List.replicate r.idl.len (1 : α)) r.idl wmax gap)) zero
  let div := div0.map (fun x => if x < 1 then 1 else x)
  List.zipWith (· / ·) gam0 div

/-- the second half of `gammaEnsemble`: everything computed from the table (same text as above, with the
    table as a parameter).  `gammaEnsemble_eq_analyse` (PV/Proofs/GammaTable.lean) shows by `rfl` that
    `gammaEnsemble` is the composition of `determineGap`, `gammaTable` and `analyseGamma`. -/
def analyseGamma (fp : FpConsts α) (ens : String) (eN : α) (wmax : Nat) (gamma : List α)
    (S tauExp nSigma : α) : Except GmErr (EnsResult α) := do
  let zero : List α := List.replicate wmax 0
  let g0 := gamma.getD 0 0
  if absS g0 < fp.tenTiny then
    return { ens := ens, tauint := fp.half, dtauint := 0, dvalue := 0, ddvalue := 0, windowsize := 0,
             rho := zero, drho := zero, nTauint := [], nDtauint := [], margin := 1 }
  let rho := gamma.map (· / g0)
  let nTau0 := cumsum (fp.half :: rho.drop 1)
  let nTau := nTau0.map (fun x => if x ≤ fp.half then fp.half + fp.eps else x)
  let nDtau0 := (List.zip (List.range wmax) nTau).map (fun (i, t) =>
      t * 2 * sqrt (absS (ofNatS i + fp.half - t) / eN))
  let nDtau := nDtau0.set 0 0
  let drhoAt (i : Nat) : α := sqrt (drhoSq rho wmax eN i)
  let biasTau (n : Nat) : α := nTau.getD n 0 * (1 + (2 * ofNatS n + 1) / eN) / (1 + 1 / eN)
  if 0 < tauExp then
    -- critical slowing down analysis (obs.py 291-307)
    let drho1 := zero.set 1 (drhoAt 1)
    if wmax / 2 ≤ 1 then throw .tauExpTooShort
    match texpLoop rho nSigma drhoAt wmax (wmax / 2 - 1) 1 drho1 with
    | none => throw .tauExpTooShort   -- unreachable: `n >= w_max // 2 - 2` is met first
    | some (n, drho) =>
      let tau := biasTau n + tauExp * absS (rho.getD (n + 1) 0)
      let dtau := sqrt (nDtau.getD n 0 * nDtau.getD n 0
                        + tauExp * tauExp * (drho.getD (n + 1) 0 * drho.getD (n + 1) 0))
      let dv := sqrt (2 * tau * g0 * (1 + 1 / eN) / eN)
      return { ens := ens, tauint := tau, dtauint := dtau, dvalue := dv,
               ddvalue := dv * sqrt ((ofNatS n + fp.half) / eN), windowsize := n,
               rho := rho, drho := drho, nTauint := nTau, nDtauint := nDtau,
               margin := minAbs ((List.range n).map (fun k => rho.getD (k + 1) 0 - nSigma * drhoAt (k + 1))) }
  else if isZero S then
    let dv := sqrt (g0 / (eN - 1))
    return { ens := ens, tauint := fp.half, dtauint := 0, dvalue := dv,
             ddvalue := dv * sqrt (fp.half / eN), windowsize := 0,
             rho := rho, drho := zero, nTauint := nTau, nDtauint := nDtau, margin := 1 }
  else
    -- automatic windowing (obs.py 317-327)
    let tau : List α := (nTau.drop 1).map (fun t => S / log ((2 * t + 1) / (2 * t - 1)))
    let gw : List α := (List.zip (List.range tau.length) tau).map (fun (k, t) =>
        exp (-(ofNatS (k + 1)) / t) - t / sqrt (ofNatS (k + 1) * eN))
    match windowLoop gw wmax (wmax - 1) 1 with
    | none => throw .tauExpTooShort   -- `range(1, w_max)` empty: no result attribute is set
    | some n =>
      let tauB := biasTau n
      let dv := sqrt (2 * tauB * g0 * (1 + 1 / eN) / eN)
      return { ens := ens, tauint := tauB, dtauint := nDtau.getD n 0, dvalue := dv,
               ddvalue := dv * sqrt ((ofNatS n + fp.half) / eN), windowsize := n,
               rho := rho, drho := zero.set n (drhoAt n), nTauint := nTau, nDtauint := nDtau,
               margin := minAbs (gw.take n) }

/-- `errsq` of a covariance input: `grad^T cov grad` -/
def covErrSq (c : CovIn α) : α :=
  dot c.grad (c.cov.map (fun row => dot row c.grad))

/-- the whole `gamma_method` -/
def gammaMethod (fp : FpConsts α) (o : Obs α) (p : GmParams α) : Except GmErr (GmResult α) := do
  let ens ← o.mcNames.mapM (fun e => gammaEnsemble fp e (o.eContent e) (p.S e) (p.tauExp e) (p.nSigma e))
  let covE := o.covs.map (fun c => (c.name, sqrt (covErrSq c)))
  let dv2 := sum (ens.map (fun r => r.dvalue * r.dvalue)) + sum (covE.map (fun c => c.2 * c.2))
  let dd2 := sum (ens.map (fun r => (r.dvalue * r.ddvalue) * (r.dvalue * r.ddvalue)))
  let dv := sqrt dv2
  let dd := if isZero dv then 0 else sqrt dd2 / dv
  pure { dvalue := dv, ddvalue := dd, ens := ens, covErr := covE }
end

end PV
