/-
  Property C11 — JSON serialisation round-trips losslessly and conforms to the shipped schema.
  Three parts of pyerrors/input/json.py, each with its model: the replica table (PV/Model/JsonRep.lean), the
  placeholders of nested dictionaries (PV/Model/Tree.lean), one `obsdata` entry (PV/Model/JsonDoc.lean).
  Conformance to the schema is tested, not proved: the harness validates emitted documents with PV/Model/Schema.lean.
-/
import PV.Gen.Schema
import PV.Proofs.TreeLemmas
import PV.Proofs.JsonDocLemmas

namespace PV
open RealS

/-- the translator recognised every keyword of examples/json_schema.json, and the schema declares
    draft-07 (which fixes the meaning of `items` and makes `prefixItems` an ignored annotation) -/
theorem c11_schema_translated :
    Gen.Schema.translated = true ∧ Gen.Schema.draft = "http://json-schema.org/draft-07/schema" := by decide

/-- the round trip of `c11_rep_roundtrip` computed in exact arithmetic: two observables with zero-mean fluctuations on
    three configurations, replica means different from the central values -/
theorem c11_example :
    decodeRep (encodeRep (α := Rat) [3, 5, 9] [[1, -3, 2], [1 / 2, 0, -1 / 2]] [5 / 2, -1] [2, -1 / 2]) [2, -1 / 2]
      = ([3, 5, 9], [[1, -3, 2], [1 / 2, 0, -1 / 2]], [5 / 2, -1]) := by
  decide +kernel

/-- C11 (replica table): for k observables on a chain of n ≥ 1 configurations whose fluctuations
    have zero mean (which every constructed or derived observable satisfies), decoding the encoded
    rows restores the configuration numbers, every fluctuation and every replica mean -/
theorem c11_rep_roundtrip (idl : List Int) (deltas : List (List ℝ)) (rvals vals : List ℝ)
    (hn : 0 < idl.length)
    (hk : deltas.length = vals.length ∧ rvals.length = vals.length)
    (hlen : ∀ d ∈ deltas, d.length = idl.length)
    (hzero : ∀ d ∈ deltas, d.sum = 0) :
    decodeRep (encodeRep idl deltas rvals vals) vals = (idl, deltas, rvals) := by
  rw [decode_encodeRep idl deltas rvals vals hn hk.1 hk.2 hlen]
  have hm : ∀ d ∈ deltas, mean d = 0 := fun d hd => by rw [mean, sum_eq, hzero d hd, zero_div]
  congr 2
  · exact (List.map_congr_left fun d hd => by simp [hm d hd]).trans (List.map_id _)
  · refine List.ext_getElem (by rw [List.length_zipWith]; omega) fun j _ _ => ?_
    rw [List.getElem_zipWith, hm _ (List.getElem_mem _), zero_add]

/-- C11: without the zero-mean property the offset absorbs the mean of the fluctuations - the
    sum δ + r (the per-configuration sample) is still restored exactly -/
theorem c11_rep_samples (idl : List Int) (deltas : List (List ℝ)) (rvals vals : List ℝ)
    (hn : 0 < idl.length)
    (hk : deltas.length = vals.length ∧ rvals.length = vals.length)
    (hlen : ∀ d ∈ deltas, d.length = idl.length) (j i : Nat) (hj : j < vals.length) (hi : i < idl.length) :
    let out := decodeRep (encodeRep idl deltas rvals vals) vals
    (out.2.1.getD j []).getD i 0 + out.2.2.getD j 0 = (deltas.getD j []).getD i 0 + rvals.getD j 0 := by
  have hd : j < deltas.length := by omega
  have hr : j < rvals.length := by omega
  have hi' : i < (deltas[j]).length := by rw [hlen _ (List.getElem_mem hd)]; exact hi
  simp only [decode_encodeRep idl deltas rvals vals hn hk.1 hk.2 hlen, List.getD_eq_getElem?_getD, List.getElem?_map,
    List.getElem?_zipWith, List.getElem?_eq_getElem hd, List.getElem?_eq_getElem hr, List.getElem?_eq_getElem hi',
    Option.map_some, Option.getD_some]
  ring

/-! ### nested dictionaries: the placeholder mechanism of `dump_dict_to_json` / `load_json_dict` -/

section dictionaries
open PV.Tree

/-- C11 (dictionaries): whatever nested dictionary the export accepts, with at least one observable
    structure in it, the import of the exported pair (list of structures, dictionary with
    placeholders) is the original dictionary: every structure is back at its place (an all-`Obs`
    list as the list it was), every other value and the order of the keys are untouched.  For every
    alphanumeric placeholder stem, every depth and every mixture of lists and dictionaries. -/
theorem c11_dict_roundtrip (reps : String) (d nd : List (String × Tree.T)) (ol : List Slot)
    (h : exportDict reps d = .ok (nd, ol)) (hne : ol ≠ []) : importDict reps ol nd = .ok d :=
  (importDict_exportDict h).trans (if_neg hne)

/-- a dictionary without any structure is exported, and the import of that export is refused
    ("No placeholder has been replaced"): never a silently different dictionary -/
theorem c11_dict_without_structure (reps : String) (d nd : List (String × Tree.T))
    (h : exportDict reps d = .ok (nd, [])) : importDict reps [] nd = .error .noPlaceholder :=
  importDict_exportDict h

/-- a string value that looks like a placeholder makes the export raise (top level of the dictionary) -/
theorem c11_dict_clash_rejected (reps : String) (d : List (String × Tree.T)) (k s : String)
    (hk : (k, Tree.T.str s) ∈ d) (hs : isPlaceholder reps s = true) : ∃ e, exportDict reps d = .error e := by
  unfold exportDict
  split
  · exact ⟨_, rfl⟩
  · exact exDict_error_of_mem hk (fun _ => ⟨.placeholderClash s, by simp [exDictVal, hs]⟩) []

/-- a generated placeholder is recognised by the import and decodes to its counter, for every stem and
    every counter (so the 11th, 101st, ... structure is found again) -/
theorem c11_placeholder_decodes (reps : String) (n : Nat) :
    isPlaceholder reps (placeholder reps n) = true ∧ phIndex reps (placeholder reps n) = .ok n :=
  ⟨isPlaceholder_placeholder reps n, phIndex_placeholder reps n⟩

/-- the hypotheses are satisfiable: a dictionary with a nested dictionary, an all-`Obs` list, a mixed
    list and a correlator exports to four slots -/
example : exportDict "DICTOBS" [("a", .leaf .obs 0), ("b", .list [.leaf .obs 1, .leaf .obs 2]),
    ("c", .dict [("d", .list [.str "x", .leaf .corr 3, .list [.leaf .obs 4]]), ("e", .atom "1.5")])]
    = .ok ([("a", .str "DICTOBS0"), ("b", .str "DICTOBS1"),
            ("c", .dict [("d", .list [.str "x", .str "DICTOBS2", .list [.str "DICTOBS3"]]), ("e", .atom "1.5")])],
           [.one .obs 0, .many [1, 2], .one .corr 3, .one .obs 4]) := by
  have h1 : isAlnum "DICTOBS" = true := by decide
  have h2 : isPlaceholder "DICTOBS" "x" = false := by decide
  simp [exportDict, h1, h2, exDict, exDictVal, exList, exListVal, obsIds, placeholder]
  decide

end dictionaries

/-! ### the numeric part of a document: `value`, `data`, `cdata`, `reweighted` of one `obsdata` entry -/

open PV.JsonDoc

/-- **C11 (documents).**  For every structure the writer accepts - observables with the same chains and configuration
    lists, the same covariance inputs and flag (`_assert_equal_properties`), each satisfying the invariant of C04,
    with zero-mean fluctuations, on chains that are not empty (a `range` holding at least two configurations) -
    reading the written document restores every observable exactly: central value, chain names in their order,
    configuration lists in their representation (range / list), every fluctuation, every replica mean, covariance
    inputs with their gradients, and the flag.  Any number of observables (at least one), ensembles, replicas,
    configuration layouts and covariance inputs.  (`toDoc` / `fromDoc` are compared with the implementation's writer
    and reader on every generated Obs / List / Array case.) -/
theorem c11_doc_roundtrip (ol : List (Obs ℝ)) (H : Writable ol) : fromDoc (toDoc ol) ol.length = .ok ol := by
  obtain ⟨hne, hwf, hch, hfl, hz, hnon, hcov⟩ := H
  have ho0m : head0 ol ∈ ol := by
    cases ol with
    | nil => exact absurd rfl hne
    | cons a t => exact List.mem_cons_self
  unfold fromDoc
  dsimp only
  rw [sorted_chains ol (Obs.wf_iff.mp (hwf _ ho0m))]
  refine mapM_eq_ok.mpr (forall₂_range fun i hi' => ?_)
  have hom : ol[i] ∈ ol := List.getElem_mem hi'
  have hwo := Obs.wf_iff.mp (hwf _ hom)
  rw [show (toDoc ol).value[i]? = some ol[i].value from
      (List.getElem?_map ..).trans (congrArg _ (List.getElem?_eq_getElem hi'))]
  dsimp only
  -- the tables are labelled by the chains of the first observable, which are those of observable `i`: read its own
  have hnon' : ∀ p ∈ ol[i].reps.map fun r => (r.name, r.idl), 1 ≤ p.2.len ∧ ∀ s n st, p.2 = Idl.range s n st → 2 ≤ n := by
    rw [hch _ hom]
    exact List.forall_mem_map.mpr hnon
  rw [← hch _ hom, List.mapM_map, List.mapM_map, mapM_eq_ok_map (g := id), List.map_id, decode_covs hi' hwo (hcov _ hom),
    show (toDoc ol).reweighted = ol[i].reweighted from (hfl _ hom).symm]
  intro r hr
  obtain ⟨hn1, hn2⟩ := hnon' _ (List.mem_map_of_mem hr)
  obtain ⟨hd, hv⟩ := deltasOf_rvalueOf_of_mem hwo hr
  obtain ⟨c1, c2, c3⟩ := chain_decode r.idl.toList (ol.map (deltasOf · r.name)) (ol.map (rvalueOf · r.name))
    (ol.map (·.value)) i (by rwa [List.length_map]) (by rwa [List.length_map]) (by rwa [List.length_map])
    (by rw [List.getElem_map, hd]; exact hwo.len r hr) hn1 (by rw [List.getElem_map, hd]; exact hz _ hom r hr)
  simp only [List.getElem_map, hd, hv] at c1 c2
  simp only [Function.comp, chainDoc]
  rw [c3, hwo.normalise_idl hr hn2]
  simp only [c1, c2, id]

/-- enumerating the chains ensemble by ensemble (`mc_names`, `e_content`), as the writer does, visits every chain
    exactly once - whatever the names -/
theorem c11_chains_enumerated (o : Obs ℝ) : (o.mcNames.flatMap o.eContent).Perm o.reps := Obs.chains_perm o

/-- a configuration list in the normal form of C04 is what the constructor makes of its explicit list: the reader
    restores `range` as `range` and irregular lists as lists -/
theorem c11_idl_restored (i : Idl) (hs : Idl.strictInc i.toList = true)
    (hform : (∀ s n st, i = Idl.range s n st → 0 < st ∧ 2 ≤ n) ∧ (∀ l, i = Idl.list l → equallySpaced l = false)) :
    Idl.normalise (.list i.toList) = .ok i := normalise_toList_self i hs hform


end PV
