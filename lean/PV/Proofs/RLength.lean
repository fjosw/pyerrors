/-
  `_expand_deltas`: where it puts a configuration (`Idl.slot`), its scatter part under a name (`scatterE`), and
  `r_length` (the quantity the window bound w_max is taken from) as the length of the array it builds.
-/
import Mathlib.Tactic.Linarith
import PV.Model.Gamma
import PV.Proofs.IdlLemmas

namespace PV
variable {α : Type} [Scalar α]

/-- where `_expand_deltas` puts configuration `c` of a chain when it expands it to the spacing `gap` -/
def Idl.slot (i : Idl) (gap c : Int) : Nat := (Py.fdiv (c - i.first) gap).toNat

/-- the scatter part of `_expand_deltas` -/
def scatterE (deltas : List α) (idx : Idl) (gap : Int) : List α :=
  (List.zip idx.toList deltas).foldl (fun acc (x : Int × α) => acc.set (idx.slot gap x.1) x.2)
    (List.replicate (Py.fdiv (idx.last - idx.first + gap) gap).toNat 0)

theorem expandDeltas_eq (deltas : List α) (idx : Idl) (gap : Int) :
    expandDeltas deltas idx gap =
      (match idx with
       | .range _ _ st => if st == gap then deltas else scatterE deltas idx gap
       | .list _ => scatterE deltas idx gap) := by
  cases idx <;> rfl

theorem expandDeltas_self_or_scatter (d : List α) (idx : Idl) (gap : Int) :
    (∃ s n, idx = .range s n gap ∧ expandDeltas d idx gap = d) ∨ expandDeltas d idx gap = scatterE d idx gap := by
  rw [expandDeltas_eq]
  cases idx with
  | list l => exact .inr rfl
  | range s n st =>
    by_cases hst : st = gap
    · exact .inl ⟨s, n, hst ▸ rfl, if_pos (by simpa using hst)⟩
    · exact .inr (if_neg (by simpa using hst))

theorem foldl_set_length {β : Type} (l : List (Int × β)) (k : Int → Nat) (init : List β) :
    (l.foldl (fun acc (x : Int × β) => acc.set (k x.1) x.2) init).length = init.length := by
  induction l generalizing init with
  | nil => rfl
  | cons x xs ih => rw [List.foldl_cons, ih, List.length_set]

theorem scatterE_length (d : List α) (idx : Idl) (gap : Int) :
    (scatterE d idx gap).length = (Py.fdiv (idx.last - idx.first + gap) gap).toNat := by
  rw [scatterE, foldl_set_length _ (idx.slot gap), List.length_replicate]

theorem fdiv_add_self (x g : Int) (hg : 0 < g) : Py.fdiv (x + g) g = Py.fdiv x g + 1 := by
  unfold Py.fdiv
  have := Int.add_mul_fdiv_right x 1 (c := g) (by omega)
  simpa using this

theorem rLength_eq_expanded_length (d : List α) (idx : Idl) (gap : Int) (hg : 0 < gap)
    (hlen : d.length = idx.len) (hne : 0 < idx.len) (hle : idx.first ≤ idx.last) :
    ((expandDeltas d idx gap).length : Int) = rLength idx gap := by
  rcases expandDeltas_self_or_scatter d idx gap with ⟨s, n, rfl, h⟩ | h
  · have hl : (Idl.range s n gap).len = n := by simp [Idl.len, Idl.toList]
    have hn : 0 < n := hl ▸ hne
    rw [h, rLength, Idl.range_first s n gap hn, Idl.range_last s n gap hn, hlen, hl,
      show s + gap * ((n : Int) - 1) - s = ((n : Int) - 1) * gap by ring, Py.fdiv, Int.mul_fdiv_cancel _ (by omega)]
    omega
  · rw [h, scatterE_length, rLength, fdiv_add_self _ _ hg]
    have : 0 ≤ Py.fdiv (idx.last - idx.first) gap := Int.fdiv_nonneg (by omega) (by omega)
    omega

end PV
