/-
  The numeric part of a json document (PV/Model/JsonDoc.lean).  The reader sorts the chains of the document by name; the
  names of a well-formed observable being strictly increasing, these are the chains of the first observable in their
  order, and each is decoded by the lemmas on the replica table (JsonRepLemmas).
-/
import PV.Model.JsonDoc
import PV.Proofs.Basic
import PV.Proofs.ObsLemmas
import PV.Proofs.JsonRepLemmas

namespace PV.JsonDoc
open Scalar RealS

variable {α : Type}

theorem fixName_eContent (o : Obs α) (e : String) (r : Rep α) (hr : r ∈ o.eContent e) :
    fixName e r.name = r.name := by
  unfold Obs.eContent at hr
  rw [List.mem_append, List.mem_filter, List.mem_filter] at hr
  unfold fixName
  rcases hr with ⟨_, h⟩ | ⟨_, h⟩
  · obtain ⟨t, ht⟩ := List.isPrefixOf_iff_prefix.mp h
    have hget : r.name.toList.getD e.toList.length ' ' = '|' := by
      rw [← ht]; simp [List.getD_eq_getElem?_getD]
    simp only [hget, bne_self_eq_false, Bool.false_eq_true, if_false, ite_self]
  · simp [eq_of_beq h]

noncomputable def chainDoc (ol : List (Obs ℝ)) (p : String × Idl) : String × List (Int × List ℝ) :=
  (p.1, encodeRep p.2.toList (ol.map (deltasOf · p.1)) (ol.map (rvalueOf · p.1)) (ol.map (·.value)))

theorem sorted_chains (ol : List (Obs ℝ)) (hw : (head0 ol).WFacts) :
    Py.sortBy (fun (a b : String × List (Int × List ℝ)) => decide (a.1 ≤ b.1))
      ((toDoc ol).data.flatMap (fun e => e.replica.map (fun r => (fixName e.id r.name, r.rows))))
      = ((head0 ol).reps.map fun r => (r.name, r.idl)).map (chainDoc ol) := by
  have hchains : (toDoc ol).data.flatMap (fun e => e.replica.map (fun r => (fixName e.id r.name, r.rows)))
      = ((head0 ol).mcNames.flatMap (head0 ol).eContent).map fun r => chainDoc ol (r.name, r.idl) := by
    simp only [toDoc, List.flatMap_map, List.map_map, List.map_flatMap]
    refine List.flatMap_congr fun e _ => List.map_congr_left fun r hr => ?_
    simp only [Function.comp, chainDoc, fixName_eContent _ e r hr]
  rw [hchains, List.map_map]
  exact Py.sortBy_eq_of_perm Prod.fst (fun _ _ => decide_eq_true_iff) ((Obs.chains_perm _).map _)
    (List.pairwise_map.mpr (List.pairwise_map.mp hw.names))

theorem deltasOf_rvalueOf_of_mem {o : Obs ℝ} (hw : o.WFacts) {r : Rep ℝ} (hr : r ∈ o.reps) :
    deltasOf o r.name = r.deltas ∧ rvalueOf o r.name = r.rvalue := by
  simp [deltasOf, rvalueOf, Obs.rep?_of_mem hw.names_nodup hr]

theorem chain_decode (idl : List Int) (D : List (List ℝ)) (R V : List ℝ) (i : Nat)
    (hD : i < D.length) (hR : i < R.length) (hV : i < V.length)
    (hdl : (D[i]).length = idl.length) (hn : 0 < idl.length) (hz : (D[i]).sum = 0) :
    let rows := encodeRep idl D R V
    let col := column rows i
    let off := sum col / ofNatS rows.length
    col.map (· - off) = D[i] ∧ off + V[i] = R[i] ∧ rows.map (·.1) = idl := by
  intro rows col off
  have hcol : col = (D[i]).map (· + (R[i] - V[i])) := column_encodeRep idl D R V i hD hR hV hdl
  have hoff : off = R[i] - V[i] := by
    rw [show off = mean col from offset_eq_mean rows i, hcol]
    exact RealS.mean_shift _ (List.ne_nil_of_length_pos (hdl ▸ hn)) hz
  exact ⟨by rw [hcol, hoff, RealS.map_add_sub], by rw [hoff, sub_add_cancel], decode_encodeRep_fst idl D R V⟩


theorem reshape_flatten (cov : List (List ℝ)) (m : Nat) (h : ∀ row ∈ cov, row.length = m) :
    reshape cov.flatten [cov.length, m] = cov := by
  unfold reshape
  induction cov with
  | nil => simp
  | cons r rest ih =>
    have hr : r.length = m := h r (by simp)
    have ih' := ih (fun row hrow => h row (by simp [hrow]))
    simp only [List.length_cons, List.range_succ_eq_map, List.map_cons, List.flatten_cons, Nat.zero_mul,
      List.drop_zero, List.map_map]
    congr 1
    · rw [← hr]; simp
    · conv_rhs => rw [← ih']
      refine List.map_congr_left fun i _ => ?_
      simp only [Function.comp]
      rw [Nat.succ_mul, Nat.add_comm (i * m) m, ← hr, ← List.drop_drop]
      simp

theorem decode_covs {ol : List (Obs ℝ)} {i : Nat} (hi : i < ol.length) (hw : ol[i].WFacts)
    (hco : ol[i].covs.map (fun c => (c.name, c.cov)) = (head0 ol).covs.map (fun c => (c.name, c.cov))) :
    (toDoc ol).cdata.map (fun (c : CovDoc ℝ) =>
      ({ name := c.id, cov := reshape c.cov c.shape, grad := c.grad.map (·.getD i 𝟘) } : CovIn ℝ)) = ol[i].covs := by
  -- what is read depends on a covariance input of the first observable only through its name and matrix
  let H : String × List (List ℝ) → CovIn ℝ := fun p =>
    { name := p.1, cov := reshape p.2.flatten [p.2.length, (p.2.headD []).length],
      grad := ((List.range p.2.length).map fun k =>
        ol.map fun o => ((o.cov? p.1).map fun c' => c'.grad.getD k 𝟘).getD 𝟘).map (·.getD i 𝟘) }
  simp only [toDoc, List.map_map]
  refine (map_of_map_eq hco.symm H).trans ((List.map_congr_left fun c hc => ?_).trans (List.map_id _))
  obtain ⟨hsq, hrows⟩ := hw.covShape c hc
  have hresh : reshape c.cov.flatten [c.cov.length, (c.cov.headD []).length] = c.cov := by
    refine reshape_flatten _ _ fun row hrow => ?_
    rw [hrows row hrow]
    cases hcc : c.cov with
    | nil => rw [hcc] at hrow; cases hrow
    | cons r0 rest => exact (hrows r0 (by rw [hcc]; simp)).symm
  have hgrad : ((List.range c.cov.length).map fun k =>
      ol.map fun o => ((o.cov? c.name).map fun c' => c'.grad.getD k 𝟘).getD 𝟘).map (·.getD i 𝟘) = c.grad := by
    rw [List.map_map, hsq]
    refine (List.map_congr_left fun k _ => ?_).trans (map_getD_range c.grad 𝟘)
    rw [Function.comp_apply, getD_map_of_lt _ _ hi, Obs.cov?_of_mem hw.covNames_nodup hc]
    rfl
  show (⟨c.name, _, _⟩ : CovIn ℝ) = c
  rw [hresh, hgrad]

/-- what `_assert_equal_properties` demands of a structure and what constructed / derived observables satisfy.
    `nonempty`: the offset is a column mean, and a one-element configuration list has no difference, so the constructor
    leaves it a list and a `range` of one configuration would not come back as a `range` -/
structure Writable (ol : List (Obs ℝ)) : Prop where
  ne : ol ≠ []
  wf : ∀ o ∈ ol, o.WF = true
  chains : ∀ o ∈ ol, o.reps.map (fun r => (r.name, r.idl)) = (head0 ol).reps.map (fun r => (r.name, r.idl))
  flag : ∀ o ∈ ol, o.reweighted = (head0 ol).reweighted
  zero : ∀ o ∈ ol, ∀ r ∈ o.reps, r.deltas.sum = 0
  nonempty : ∀ r ∈ (head0 ol).reps, 1 ≤ r.idl.len ∧ ∀ s n st, r.idl = Idl.range s n st → 2 ≤ n
  covs : ∀ o ∈ ol, o.covs.map (fun c => (c.name, c.cov)) = (head0 ol).covs.map (fun c => (c.name, c.cov))

end PV.JsonDoc
