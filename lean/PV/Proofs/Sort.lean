/-
  Python's `sorted(l, key=..)` and `sorted(set(l))` as modelled in `PV/Py.lean`: `Py.sortBy` is a stable insertion
  sort, `Py.sortedSet` / `Py.sortedSetStr` sort and drop adjacent duplicates.  What the proofs need of them is said
  here once: the result is a permutation, the sort is stable (hence the result is sorted by the key, and independent of
  the input order when ties occur only between equal entries), an already sorted list is left alone, and a strictly
  increasing list is determined by its members.
-/
import Mathlib.Data.List.Induction
import Mathlib.Data.List.Sort
import Mathlib.Data.List.Perm.Subperm
import Mathlib.Data.String.Basic
import PV.Py

namespace Py

variable {β γ κ : Type}

theorem perm_insertSorted (le : β → β → Bool) (x : β) (l : List β) : (insertSorted le x l).Perm (x :: l) := by
  induction l with
  | nil => rfl
  | cons y ys ih =>
    unfold insertSorted
    split
    · exact (ih.cons y).trans (List.Perm.swap x y ys)
    · rfl

/-- the sort inserts the entries from left to right; the facts below go by induction from the right -/
theorem sortBy_concat (le : β → β → Bool) (l : List β) (x : β) :
    sortBy le (l ++ [x]) = insertSorted le x (sortBy le l) := by
  rw [sortBy, List.foldl_append]
  rfl

theorem perm_sortBy (le : β → β → Bool) (l : List β) : (sortBy le l).Perm l := by
  induction l using List.reverseRecOn with
  | nil => rfl
  | append_singleton l x ih =>
    rw [sortBy_concat]
    exact (perm_insertSorted le x _).trans ((ih.cons x).trans (List.perm_append_singleton x l).symm)

theorem mem_insertSorted {le : β → β → Bool} {x y : β} {l : List β} : y ∈ insertSorted le x l ↔ y = x ∨ y ∈ l :=
  (perm_insertSorted le x l).mem_iff.trans List.mem_cons

theorem mem_sortBy {le : β → β → Bool} {y : β} {l : List β} : y ∈ sortBy le l ↔ y ∈ l :=
  (perm_sortBy le l).mem_iff

theorem map_insertSorted (f : β → γ) (le : γ → γ → Bool) (x : β) (l : List β) :
    (insertSorted (fun a b => le (f a) (f b)) x l).map f = insertSorted le (f x) (l.map f) := by
  induction l with
  | nil => rfl
  | cons y ys ih =>
    simp only [insertSorted, List.map_cons]
    split <;> simp [ih]

theorem map_sortBy (f : β → γ) (le : γ → γ → Bool) (l : List β) :
    (sortBy (fun a b => le (f a) (f b)) l).map f = sortBy le (l.map f) := by
  induction l using List.reverseRecOn with
  | nil => rfl
  | append_singleton l x ih => rw [sortBy_concat, map_insertSorted, ih, List.map_append, List.map_singleton, sortBy_concat]

/-! ### an already sorted list is left alone: an element goes behind its equals -/

theorem insertSorted_append (le : β → β → Bool) (x : β) (l : List β) (h : ∀ y ∈ l, le y x = true) :
    insertSorted le x l = l ++ [x] := by
  induction l with
  | nil => rfl
  | cons z zs ih =>
    rw [insertSorted, if_pos (h z (by simp)), ih (fun y hy => h y (by simp [hy]))]
    rfl

theorem sortBy_of_sorted (le : β → β → Bool) (l : List β) (h : l.Pairwise (fun a b => le a b = true)) :
    sortBy le l = l := by
  induction l using List.reverseRecOn with
  | nil => rfl
  | append_singleton l x ih =>
    have hp := List.pairwise_append.mp h
    rw [sortBy_concat, ih hp.1, insertSorted_append le x l fun y hy => hp.2.2 y hy x (List.mem_singleton_self x)]

/-- `a` may stand before `b` in the result of a stable sort of a list whose entries are pairwise related by `R`:
    `a ≤ b`, and on a tie the two are in their original order -/
def Stable (le : β → β → Bool) (R : β → β → Prop) (a b : β) : Prop := le a b = true ∧ (le b a = true → R a b)

section stable
variable (le : β → β → Bool) (htot : ∀ a b, le a b = true ∨ le b a = true)
  (htr : ∀ a b c, le a b = true → le b c = true → le a c = true) (R : β → β → Prop)
include htot htr

theorem insertSorted_stable (x : β) (acc : List β) (hacc : acc.Pairwise (Stable le R)) (hR : ∀ y ∈ acc, R y x) :
    (insertSorted le x acc).Pairwise (Stable le R) := by
  induction acc with
  | nil => exact List.pairwise_singleton _ _
  | cons y ys ih =>
    unfold insertSorted
    have hy := List.pairwise_cons.mp hacc
    split
    · rename_i h
      refine List.pairwise_cons.mpr ⟨fun z hz => ?_, ih hy.2 (fun z hz => hR z (by simp [hz]))⟩
      rcases mem_insertSorted.mp hz with rfl | hz
      · exact ⟨h, fun _ => hR y (by simp)⟩
      · exact hy.1 z hz
    · rename_i h
      have hxy : le x y = true := (htot x y).resolve_right h
      refine List.pairwise_cons.mpr ⟨fun z hz => ?_, hacc⟩
      rcases List.mem_cons.mp hz with rfl | hz
      · exact ⟨hxy, fun h' => absurd h' h⟩
      · exact ⟨htr _ _ _ hxy (hy.1 z hz).1, fun h' => absurd (htr _ _ _ (hy.1 z hz).1 h') h⟩

theorem sortBy_stable (l : List β) (hl : l.Pairwise R) : (sortBy le l).Pairwise (Stable le R) := by
  induction l using List.reverseRecOn with
  | nil => exact .nil
  | append_singleton l x ih =>
    have hp := List.pairwise_append.mp hl
    rw [sortBy_concat]
    exact insertSorted_stable le htot htr R x _ (ih hp.1) fun y hy =>
      hp.2.2 y (mem_sortBy.mp hy) x (List.mem_singleton_self x)

theorem sortBy_sorted (l : List β) : (sortBy le l).Pairwise (fun a b => le a b = true) :=
  (sortBy_stable le htot htr (fun _ _ => True) l (List.pairwise_of_forall (fun _ _ => trivial))).imp And.left

theorem sortBy_congr_perm (l l' : List β) (hp : l.Perm l')
    (hanti : ∀ a ∈ l, ∀ b ∈ l, le a b = true → le b a = true → a = b) : sortBy le l = sortBy le l' := by
  have h1 := perm_sortBy le l
  refine List.Perm.eq_of_pairwise (fun a b ha hb => hanti a (h1.subset ha) b ?_)
    (sortBy_sorted le htot htr l) (sortBy_sorted le htot htr l') (h1.trans (hp.trans (perm_sortBy le l').symm))
  exact hp.symm.subset (mem_sortBy.mp hb)

end stable

section key
variable [LinearOrder κ] (key : β → κ) {le : β → β → Bool} (hle : ∀ a b, le a b = true ↔ key a ≤ key b)
include hle

theorem total_of_key (a b : β) : le a b = true ∨ le b a = true := by
  simp only [hle]
  exact le_total _ _

theorem trans_of_key (a b c : β) : le a b = true → le b c = true → le a c = true := by
  simp only [hle]
  exact le_trans

theorem pairwise_insertSorted (x : β) (l : List β) (h : l.Pairwise (fun a b => key a ≤ key b)) :
    (insertSorted le x l).Pairwise (fun a b => key a ≤ key b) :=
  (insertSorted_stable le (total_of_key key hle) (trans_of_key key hle) (fun _ _ => True) x l
    (h.imp (fun h => ⟨(hle _ _).mpr h, fun _ => trivial⟩)) (fun _ _ => trivial)).imp (fun h => (hle _ _).mp h.1)

theorem pairwise_sortBy (l : List β) : (sortBy le l).Pairwise (fun a b => key a ≤ key b) :=
  (sortBy_sorted le (total_of_key key hle) (trans_of_key key hle) l).imp (fun h => (hle _ _).mp h)

theorem sortBy_congr_of_nodup_key {l l' : List β} (hp : l.Perm l') (hnd : (l.map key).Nodup) :
    sortBy le l = sortBy le l' :=
  sortBy_congr_perm le (total_of_key key hle) (trans_of_key key hle) l l' hp fun _ ha _ hb hab hba =>
    List.inj_on_of_nodup_map hnd ha hb (le_antisymm ((hle _ _).mp hab) ((hle _ _).mp hba))

theorem sortBy_eq_of_perm {L M : List β} (hp : L.Perm M) (hM : M.Pairwise (fun a b => key a < key b)) :
    sortBy le L = M := by
  have h1 : (sortBy le L).Perm M := (perm_sortBy le L).trans hp
  have hnd : (M.map key).Nodup := (List.pairwise_map.mpr hM).imp ne_of_lt
  refine h1.eq_of_pairwise (fun a b ha hb hab hba => ?_) (pairwise_sortBy key hle L) (hM.imp le_of_lt)
  exact List.inj_on_of_nodup_map hnd (h1.subset ha) hb (le_antisymm hab hba)

end key

/-! ### `sorted(set(l))` -/

theorem dedupSorted_sublist [BEq β] (l : List β) : (dedupSorted l).Sublist l := by
  fun_induction dedupSorted l with
  | case1 => exact .slnil
  | case2 x => exact .refl _
  | case3 x z r _ ih => exact ih.trans (List.sublist_cons_self _ _)
  | case4 x z r _ ih => exact ih.cons_cons x

theorem mem_dedupSorted [BEq β] [LawfulBEq β] {y : β} {l : List β} : y ∈ dedupSorted l ↔ y ∈ l := by
  fun_induction dedupSorted l with
  | case1 => rfl
  | case2 x => rfl
  | case3 x z r hxz ih => rw [ih, eq_of_beq hxz]; simp
  | case4 x z r _ ih => rw [List.mem_cons, ih, List.mem_cons (a := y) (b := x)]

theorem dedupSorted_of_pairwise_ne [BEq β] [LawfulBEq β] (l : List β) (h : l.Pairwise (· ≠ ·)) :
    dedupSorted l = l := by
  fun_induction dedupSorted l with
  | case1 => rfl
  | case2 x => rfl
  | case3 x z r hxz _ => exact absurd (eq_of_beq hxz) ((List.pairwise_cons.mp h).1 z (by simp))
  | case4 x z r _ ih => rw [ih (List.pairwise_cons.mp h).2]

theorem mem_dedup_sortBy [BEq β] [LawfulBEq β] {le : β → β → Bool} {y : β} {l : List β} :
    y ∈ dedupSorted (sortBy le l) ↔ y ∈ l :=
  mem_dedupSorted.trans mem_sortBy

section linear
variable [LinearOrder β] [BEq β] [LawfulBEq β]

theorem pairwise_dedupSorted (l : List β) (h : l.Pairwise (· ≤ ·)) : (dedupSorted l).Pairwise (· < ·) := by
  fun_induction dedupSorted l with
  | case1 => exact .nil
  | case2 x => exact List.pairwise_singleton _ _
  | case3 x z r _ ih => exact ih (List.pairwise_cons.mp h).2
  | case4 x z r hxz ih =>
    rw [List.pairwise_cons] at h
    have hlt : x < z := lt_of_le_of_ne (h.1 z (by simp)) (fun e => hxz (e ▸ beq_self_eq_true x))
    refine List.pairwise_cons.mpr ⟨fun a ha => ?_, ih h.2⟩
    rcases List.mem_cons.mp (mem_dedupSorted.mp ha) with rfl | ha
    · exact hlt
    · exact hlt.trans_le ((List.pairwise_cons.mp h.2).1 a ha)

variable {le : β → β → Bool} (hle : ∀ a b, le a b = true ↔ a ≤ b)
include hle

theorem pairwise_dedup_sortBy (l : List β) : (dedupSorted (sortBy le l)).Pairwise (· < ·) :=
  pairwise_dedupSorted _ (pairwise_sortBy id hle l)

theorem dedup_sortBy_eq_of {l u : List β} (hu : u.Pairwise (· < ·)) (h : ∀ x, x ∈ u ↔ x ∈ l) :
    dedupSorted (sortBy le l) = u :=
  (pairwise_dedup_sortBy hle l).eq_of_mem_iff hu (fun x => mem_dedup_sortBy.trans (h x).symm)

/-- `len(set(l)) == len(l)` means that `l` has no duplicates, and then sorting alone gives `sorted(set(l))` -/
theorem nodup_of_length_dedup {l : List β} (h : (dedupSorted (sortBy le l)).length = l.length) :
    l.Nodup ∧ dedupSorted (sortBy le l) = sortBy le l := by
  have heq := (dedupSorted_sublist (sortBy le l)).eq_of_length (h.trans (perm_sortBy le l).length_eq.symm)
  refine ⟨(perm_sortBy le l).nodup_iff.mp ?_, heq⟩
  rw [← heq]
  exact (pairwise_dedup_sortBy hle l).imp ne_of_lt

end linear

theorem mem_sortedSet {y : Int} {l : List Int} : y ∈ sortedSet l ↔ y ∈ l := mem_dedup_sortBy
theorem pairwise_sortedSet (l : List Int) : (sortedSet l).Pairwise (· < ·) :=
  pairwise_dedup_sortBy (fun _ _ => decide_eq_true_iff) l
theorem sortedSet_eq_of {l u : List Int} (hu : u.Pairwise (· < ·)) (h : ∀ x, x ∈ u ↔ x ∈ l) : sortedSet l = u :=
  dedup_sortBy_eq_of (fun _ _ => decide_eq_true_iff) hu h

theorem mem_sortedSetStr {y : String} {l : List String} : y ∈ sortedSetStr l ↔ y ∈ l := mem_dedup_sortBy
theorem pairwise_sortedSetStr (l : List String) : (sortedSetStr l).Pairwise (· < ·) :=
  pairwise_dedup_sortBy (fun _ _ => decide_eq_true_iff) l
theorem sortedSetStr_eq_of {l u : List String} (hu : u.Pairwise (· < ·)) (h : ∀ x, x ∈ u ↔ x ∈ l) :
    sortedSetStr l = u :=
  dedup_sortBy_eq_of (fun _ _ => decide_eq_true_iff) hu h
theorem nodup_of_length_sortedSetStr {l : List String} (h : (sortedSetStr l).length = l.length) :
    l.Nodup ∧ sortedSetStr l = sortBy (fun a b => decide (a ≤ b)) l :=
  nodup_of_length_dedup (fun _ _ => decide_eq_true_iff) h

end Py
