/-
  C09 — the mathematics behind `pyerrors.roots.find_root` and `pyerrors.integrate.quad`: the sensitivity of a root to a
  parameter (the inverse function as its special case), the derivative of an integral in its limits and, for the two
  families the checks use, under the integral sign, and the order in which `quad` assembles the gradient.
  Partial derivatives of a function of two real variables are stated through `partialsCLM`.
-/
import Mathlib.Analysis.SpecialFunctions.Integrals.Basic
import PV.Props.C08Alg

namespace PV

open Filter Topology MeasureTheory intervalIntegral

/-- the Fréchet derivative of a function of two real variables whose partial derivatives are `fx` and `fd` -/
noncomputable def partialsCLM (fx fd : ℝ) : ℝ × ℝ →L[ℝ] ℝ :=
  fx • ContinuousLinearMap.fst ℝ ℝ ℝ + fd • ContinuousLinearMap.snd ℝ ℝ ℝ

@[simp] theorem partialsCLM_apply (fx fd : ℝ) (v : ℝ × ℝ) :
    partialsCLM fx fd v = fx * v.1 + fd * v.2 := by
  simp [partialsCLM]

theorem hasFDerivAt_sub_snd {g : ℝ → ℝ} {g' x0 : ℝ} (hg : HasDerivAt g g' x0) (d0 : ℝ) :
    HasFDerivAt (fun p : ℝ × ℝ => g p.1 - p.2) (partialsCLM g' (-1)) (x0, d0) := by
  -- the scalar field is given explicitly: left to unification it is found late and dearly
  have h := (hg.comp_hasFDerivAt (x0, d0) (hasFDerivAt_fst (𝕜 := ℝ))).sub
    (hasFDerivAt_snd (𝕜 := ℝ) (p := (x0, d0)))
  refine h.congr_fderiv (ContinuousLinearMap.ext fun v => ?_)
  rw [partialsCLM_apply, neg_one_mul, ← sub_eq_add_neg]
  rfl

/-- C09 (root sensitivity).  A differentiable root curve `x` of `f` (`f (x d) d = 0` near `d0`) through `(x0, d0)`,
    where `f` has the partial derivatives `fx ≠ 0` and `fd`, has `deriv x d0 = - fd / fx`: the manual gradient
    `man_grad = - ∂_d f / ∂_x f` that `find_root` attaches to the root.  Without `fx ≠ 0` or the differentiability of
    `x` the formula has no meaning. -/
theorem c09_root_sensitivity (f : ℝ → ℝ → ℝ) (x : ℝ → ℝ) (x0 d0 fx fd : ℝ)
    (hf : HasFDerivAt (fun p : ℝ × ℝ => f p.1 p.2) (partialsCLM fx fd) (x0, d0))
    (hfx : fx ≠ 0) (hx : DifferentiableAt ℝ x d0) (hx0 : x d0 = x0)
    (hroot : ∀ᶠ d in 𝓝 d0, f (x d) d = 0) :
    deriv x d0 = - fd / fx := by
  simpa using c08_ift_1d f x x0 d0 _ hf (by simpa using hfx) hx hx0 hroot

/-- non-vacuity of `c09_root_sensitivity`: `f x d = x ^ 2 - d` at `(x0, d0) = (2, 4)` with root curve `x d = √d`,
    `fx = 4`, `fd = -1` -/
example : deriv (fun d : ℝ => Real.sqrt d) 4 = - (-1 : ℝ) / 4 := by
  have h2 : Real.sqrt 4 = 2 := by
    rw [show (4 : ℝ) = 2 ^ 2 by norm_num]
    exact Real.sqrt_sq (by norm_num)
  refine c09_root_sensitivity (fun x d => x ^ 2 - d) (fun d => Real.sqrt d) 2 4 4 (-1)
    (hasFDerivAt_sub_snd ((hasDerivAt_pow 2 (2 : ℝ)).congr_deriv (by norm_num)) 4)
    (by norm_num) (Real.hasDerivAt_sqrt (by norm_num)).differentiableAt h2 ?_
  filter_upwards [lt_mem_nhds (show (0 : ℝ) < 4 by norm_num)] with d hd
  exact sub_eq_zero.mpr (Real.sq_sqrt hd.le)

/-- C09 (inverse function).  The root problem for `f (x, d) = g x - d` with `g' ≠ 0`: a root map `h` (`g (h d) = d`
    near `d0`, `h d0 = x0`, `h` continuous at `d0`) is differentiable at `d0` with derivative `1 / g'`, and that is the
    sensitivity `-∂_d f / ∂_x f` of `c09_root_sensitivity` for the partials `g'`, `-1` of this `f`: the fluctuation
    `find_root` propagates is that of applying the inverse function directly.
    The inverse relation is `g (h d) = d` near `d0` (what `find_root` computes, and the hypothesis of
    `HasDerivAt.of_local_left_inverse`); `h (g x) = x` near `x0` would not suffice when `g` is differentiable at the
    single point `x0` only (its image need not be a neighbourhood of `g x0`).  `g x0 = d0` follows and is no hypothesis. -/
theorem c09_inverse_function (g h : ℝ → ℝ) (x0 d0 g' : ℝ)
    (hg : HasDerivAt g g' x0) (hg' : g' ≠ 0)
    (hh0 : h d0 = x0) (hcont : ContinuousAt h d0)
    (hinv : ∀ᶠ d in 𝓝 d0, g (h d) = d) :
    HasFDerivAt (fun p : ℝ × ℝ => g p.1 - p.2) (partialsCLM g' (-1)) (x0, d0)
      ∧ - (-1 : ℝ) / g' = 1 / g'
      ∧ HasDerivAt h (1 / g') d0
      ∧ deriv h d0 = - (-1 : ℝ) / g' := by
  have hD : HasDerivAt h (1 / g') d0 :=
    one_div g' ▸ HasDerivAt.of_local_left_inverse hcont (hh0 ▸ hg) hg' hinv
  have e : - (-1 : ℝ) / g' = 1 / g' := by rw [neg_neg]
  exact ⟨hasFDerivAt_sub_snd hg d0, e, hD, e ▸ hD.deriv⟩

/-- non-vacuity of `c09_inverse_function`: `g x = 2 * x + 1`, `h d = (d - 1) / 2` at `x0 = 1`, `d0 = 3` -/
example : HasDerivAt (fun d : ℝ => (d - 1) / 2) (1 / 2) 3 := by
  refine (c09_inverse_function (fun x => 2 * x + 1) (fun d => (d - 1) / 2) 1 3 2 ?_ two_ne_zero
    (by norm_num) (by fun_prop) ?_).2.2.1
  · exact (hasDerivAt_const_mul (2 : ℝ)).add_const 1
  · exact Eventually.of_forall fun d => by ring

/-- C09 (FTC, upper limit).  `quad` uses `+integrand(b)` as the gradient with respect to an observable upper limit.
    Beyond integrability only continuity of `f` near `b` is needed. -/
theorem c09_ftc_upper (f : ℝ → ℝ) (a b : ℝ) (hint : IntervalIntegrable f volume a b)
    (hcont : ∀ᶠ x in 𝓝 b, ContinuousAt f x) :
    HasDerivAt (fun u => ∫ x in a..u, f x) (f b) b := by
  obtain ⟨s, hs, hso, hbs⟩ := eventually_nhds_iff.mp hcont
  exact integral_hasDerivAt_right hint
    (ContinuousAt.stronglyMeasurableAtFilter hso hs b hbs) (hs b hbs)

/-- C09 (FTC, lower limit).  `quad` uses `-integrand(a)` as the gradient with respect to an observable lower limit. -/
theorem c09_ftc_lower (f : ℝ → ℝ) (a b : ℝ) (hint : IntervalIntegrable f volume a b)
    (hcont : ∀ᶠ x in 𝓝 a, ContinuousAt f x) :
    HasDerivAt (fun u => ∫ x in u..b, f x) (- f a) a := by
  simpa only [← integral_symm b] using (c09_ftc_upper f b a hint.symm hcont).fun_neg

/-- C09 (FTC at the limits) for an integrand continuous everywhere, as the polynomial, exponential and trigonometric
    integrands the property quantifies over are -/
theorem c09_ftc_upper_of_continuous (f : ℝ → ℝ) (hf : Continuous f) (a b : ℝ) :
    HasDerivAt (fun u => ∫ x in a..u, f x) (f b) b :=
  c09_ftc_upper f a b (hf.intervalIntegrable a b) (Eventually.of_forall fun _ => hf.continuousAt)

theorem c09_ftc_lower_of_continuous (f : ℝ → ℝ) (hf : Continuous f) (a b : ℝ) :
    HasDerivAt (fun u => ∫ x in u..b, f x) (- f a) a :=
  c09_ftc_lower f a b (hf.intervalIntegrable a b) (Eventually.of_forall fun _ => hf.continuousAt)

/-- Non-vacuity of `c09_ftc_upper` / `c09_ftc_lower`: the integrand `x ↦ x * exp x` on `1..2`. -/
example :
    HasDerivAt (fun u => ∫ x in (1 : ℝ)..u, x * Real.exp x) (2 * Real.exp 2) 2 ∧
    HasDerivAt (fun u => ∫ x in u..(2 : ℝ), x * Real.exp x) (- (1 * Real.exp 1)) 1 := by
  have hc : Continuous fun x : ℝ => x * Real.exp x := by fun_prop
  exact ⟨c09_ftc_upper_of_continuous _ hc 1 2, c09_ftc_lower_of_continuous _ hc 1 2⟩

/-- C09 (parameter derivative, polynomial family `f(p, x) = p * x ^ n`).  The closed form of the integral, its derivative
    in `p`, and that this derivative is the integral of `∂_p f = x ^ n`: `quad` obtains the gradient with respect to an
    observable parameter by integrating the parameter-derivative of the integrand. -/
theorem c09_param_poly (n : ℕ) (a b p : ℝ) :
    (∫ x in a..b, p * x ^ n) = p * (b ^ (n + 1) - a ^ (n + 1)) / (n + 1)
    ∧ HasDerivAt (fun q : ℝ => ∫ x in a..b, q * x ^ n) ((b ^ (n + 1) - a ^ (n + 1)) / (n + 1)) p
    ∧ (∀ x : ℝ, deriv (fun q : ℝ => q * x ^ n) p = x ^ n)
    ∧ (∫ x in a..b, deriv (fun q : ℝ => q * x ^ n) p) = (b ^ (n + 1) - a ^ (n + 1)) / (n + 1) := by
  have hI : ∀ q : ℝ, (∫ x in a..b, q * x ^ n) = q * ((b ^ (n + 1) - a ^ (n + 1)) / (n + 1)) :=
    fun q => by rw [intervalIntegral.integral_const_mul, integral_pow]
  have hd : ∀ x : ℝ, deriv (fun q : ℝ => q * x ^ n) p = x ^ n := fun x =>
    (hasDerivAt_mul_const (x ^ n)).deriv
  refine ⟨(hI p).trans (mul_div_assoc ..).symm, ?_, hd, ?_⟩
  · rw [funext hI]
    exact hasDerivAt_mul_const _
  · simp_rw [hd]
    exact integral_pow n

theorem hasDerivAt_xexp_primitive {p : ℝ} (hp : p ≠ 0) (x : ℝ) :
    HasDerivAt (fun y : ℝ => (y / p - 1 / p ^ 2) * Real.exp (p * y)) (x * Real.exp (p * x)) x := by
  refine ((((hasDerivAt_id' x).div_const p).sub_const (1 / p ^ 2)).mul
    (hasDerivAt_const_mul p).exp).congr_deriv ?_
  field_simp
  ring

theorem integral_exp_mul_real {p : ℝ} (hp : p ≠ 0) (a b : ℝ) :
    ∫ x in a..b, Real.exp (p * x) = (Real.exp (p * b) - Real.exp (p * a)) / p := by
  rw [eq_div_iff hp, mul_comm, mul_integral_comp_mul_left, integral_exp]

theorem integral_x_exp_mul_real {p : ℝ} (hp : p ≠ 0) (a b : ℝ) :
    ∫ x in a..b, x * Real.exp (p * x)
      = (b / p - 1 / p ^ 2) * Real.exp (p * b) - (a / p - 1 / p ^ 2) * Real.exp (p * a) := by
  have hcont : Continuous fun x : ℝ => x * Real.exp (p * x) := by fun_prop
  rw [integral_eq_sub_of_hasDerivAt (fun x _ => hasDerivAt_xexp_primitive hp x)
    (hcont.intervalIntegrable a b)]

/-- C09 (parameter derivative, exponential family `f(p, x) = exp (p * x)`; `p ≠ 0` because the closed forms divide by
    `p`).  The closed forms of `∫ f` and of `∫ ∂_p f`, `∂_p f = x exp (p x)`, and that the integral is differentiable in
    `p` with derivative `∫ ∂_p f`. -/
theorem c09_param_exp (a b p : ℝ) (hp : p ≠ 0) :
    (∫ x in a..b, Real.exp (p * x)) = (Real.exp (p * b) - Real.exp (p * a)) / p
    ∧ (∫ x in a..b, x * Real.exp (p * x))
        = (b / p - 1 / p ^ 2) * Real.exp (p * b) - (a / p - 1 / p ^ 2) * Real.exp (p * a)
    ∧ (∀ x : ℝ, deriv (fun q : ℝ => Real.exp (q * x)) p = x * Real.exp (p * x))
    ∧ HasDerivAt (fun q : ℝ => ∫ x in a..b, Real.exp (q * x))
        (∫ x in a..b, deriv (fun q : ℝ => Real.exp (q * x)) p) p := by
  have hd : ∀ x : ℝ, deriv (fun q : ℝ => Real.exp (q * x)) p = x * Real.exp (p * x) := fun x =>
    (hasDerivAt_mul_const x).exp.deriv.trans (mul_comm ..)
  refine ⟨integral_exp_mul_real hp a b, integral_x_exp_mul_real hp a b, hd, ?_⟩
  simp_rw [hd]
  rw [integral_x_exp_mul_real hp a b]
  -- near `p` the integral is its closed form `q ↦ (exp (q b) - exp (q a)) / q`; differentiate that
  have hev : (fun q : ℝ => ∫ x in a..b, Real.exp (q * x))
      =ᶠ[𝓝 p] fun q : ℝ => (Real.exp (q * b) - Real.exp (q * a)) / q := by
    filter_upwards [isOpen_ne.mem_nhds hp] with q hq
    exact integral_exp_mul_real hq a b
  refine ((((hasDerivAt_mul_const b).exp.fun_sub (hasDerivAt_mul_const a).exp).fun_div
    (hasDerivAt_id' p) hp).congr_of_eventuallyEq hev).congr_deriv ?_
  field_simp
  ring

/-- Non-vacuity of `c09_param_exp`: `p = 2` on `0..1`. -/
example : (∫ x in (0 : ℝ)..1, Real.exp (2 * x)) = (Real.exp (2 * 1) - Real.exp (2 * 0)) / 2 :=
  (c09_param_exp 0 1 2 (by norm_num)).1

/-- C09 (gradient order).  `quad` passes the observables as `pobs ++ bobs` (parameters first, then the at most two
    observable limits) and assembles the gradient as `pgrad ++ bgrad` (parameter derivatives, then the signed integrand at
    the limits): with one gradient entry per observable the two lists pair up entry by entry.  `bobs.length ≤ 2` is a
    fact about the code, carried for fidelity; the conclusion does not need it. -/
theorem c09_gradient_order {α β : Type*} (pobs bobs : List α) (pgrad bgrad : List β)
    (hp : pgrad.length = pobs.length) (hb : bgrad.length = bobs.length)
    (_hb2 : bobs.length ≤ 2) :
    (pgrad ++ bgrad).length = (pobs ++ bobs).length
    ∧ List.zip (pobs ++ bobs) (pgrad ++ bgrad) = List.zip pobs pgrad ++ List.zip bobs bgrad
    ∧ (∀ i, i < pobs.length →
        (pobs ++ bobs)[i]? = pobs[i]? ∧ (pgrad ++ bgrad)[i]? = pgrad[i]?)
    ∧ (∀ j, (pobs ++ bobs)[pobs.length + j]? = bobs[j]?
        ∧ (pgrad ++ bgrad)[pobs.length + j]? = bgrad[j]?) := by
  refine ⟨by rw [List.length_append, List.length_append, hp, hb], List.zip_append hp.symm, ?_, ?_⟩
  · intro i hi
    exact ⟨List.getElem?_append_left hi, List.getElem?_append_left (hp ▸ hi)⟩
  · intro j
    refine ⟨?_, ?_⟩
    · rw [List.getElem?_append_right (Nat.le_add_right _ _), Nat.add_sub_cancel_left]
    · rw [← hp, List.getElem?_append_right (Nat.le_add_right _ _), Nat.add_sub_cancel_left]

/-- C09 (gradient order, the limit bookkeeping of `quad`).  Each limit is an observable (`some o`) or a plain number
    (`none`); `bobs` collects the observable ones in the order lower, upper, with the gradients `-f(a)` and `+f(b)`. -/
theorem c09_gradient_order_limits {α : Type*} (pobs : List α) (pgrad : List ℝ)
    (hp : pgrad.length = pobs.length) (la lb : Option α) (fa fb : ℝ) :
    let bobs := la.toList ++ lb.toList
    let bgrad := (la.map fun _ => -fa).toList ++ (lb.map fun _ => fb).toList
    bobs.length ≤ 2 ∧ bgrad.length = bobs.length
    ∧ (pgrad ++ bgrad).length = (pobs ++ bobs).length
    ∧ List.zip (pobs ++ bobs) (pgrad ++ bgrad)
        = List.zip pobs pgrad
          ++ ((la.map fun o => (o, -fa)).toList ++ (lb.map fun o => (o, fb)).toList) := by
  cases la <;> cases lb <;> simp [hp, List.zip_append hp.symm]

/-- Non-vacuity of `c09_gradient_order`: two parameters and both limits observable. -/
example :
    List.zip (["p0", "p1"] ++ ["a", "b"]) (([1, 2] : List ℤ) ++ [-3, 4])
      = [("p0", 1), ("p1", 2)] ++ [("a", -3), ("b", 4)] :=
  (c09_gradient_order ["p0", "p1"] ["a", "b"] ([1, 2] : List ℤ) [-3, 4] rfl rfl (by simp)).2.1

end PV
