/-
  Property C12 — dobs / pobs XML export and import are mutually inverse.
  dobs (PV/Model/Dobs.lean): the column of an observable in the per-replica table is read against the merged
  configuration list of all observables, `0` marking "not measured", so a written number that is exactly 0 is lost.
  pobs (PV/Model/Pobs.lean): strided slicing of the replica block, then the `Obs` constructor; the file holds no
  central value.
-/
import PV.Proofs.DobsLemmas
import PV.Proofs.PobsLemmas

namespace PV
open Scalar

variable {α : Type} [Scalar α]

/- `Scalar` has no laws, so that `isZero` recognises the literal 0 (the marker of an unmeasured configuration) is a
   hypothesis `hz` of the dobs theorems; at ℝ and at IEEE doubles it holds. -/

/-- **C12 (dobs, what the import returns).**  Whatever the merged configuration list and the chain measured on a
    sub-list of it, the import returns exactly the measured configurations whose written number is not the marker,
    each with its number + central value: nothing is shifted to another configuration, nothing is invented. -/
theorem c12_dobs_import_export (v : α) (hz : isZero (0 : α) = true) (merged idl : List Int) (nums : List α)
    (hnd : merged.Nodup) (hs : idl.Sublist merged) (hl : nums.length = idl.length) :
    dobsImport merged (dobsColumn merged idl nums) v
      = ((idl.zip nums).filter (fun p => !isZero p.2)).map (fun p => (p.1, p.2 + v)) := by
  rw [dobsImport_column v hz nums hnd hs hl, ← List.filterMap_eq_filter, List.map_filterMap]
  exact List.filterMap_congr fun p _ => by cases h : isZero p.2 <;> simp [Option.guard, h]

/-- **C12 (dobs round trip, partial).**  If no written number is exactly 0, the observable comes back on exactly
    its own configurations with every sample restored — for lists of observables on different
    configuration subsets alike, since each column is read independently against the merged list.
    The hypothesis excludes precisely the known finding `dobs-drops-sample-equal-to-central-value`. -/
theorem c12_dobs_roundtrip_partial (v : α) (hz : isZero (0 : α) = true) (merged idl : List Int) (nums : List α)
    (hnd : merged.Nodup) (hs : idl.Sublist merged) (hl : nums.length = idl.length)
    (hnz : ∀ x ∈ nums, isZero x = false) :
    dobsImport merged (dobsColumn merged idl nums) v = (idl.zip nums).map (fun p => (p.1, p.2 + v)) := by
  rw [c12_dobs_import_export v hz merged idl nums hnd hs hl,
    List.filter_eq_self.mpr fun p hp => by rw [hnz p.2 (List.of_mem_zip hp).2]; rfl]

/-- **C12 (dobs, the known finding in general).**  A measured configuration whose written number is exactly 0 is
    never returned by the import, whatever the rest of the chain looks like. -/
theorem c12_dobs_zero_dropped (v : α) (hz : isZero (0 : α) = true) (merged idl : List Int) (nums : List α)
    (hnd : merged.Nodup) (hs : idl.Sublist merged) (hl : nums.length = idl.length)
    (k : Nat) (hk : k < idl.length) (hzero : isZero (nums.getD k 0) = true) :
    idl.getD k 0 ∉ (dobsImport merged (dobsColumn merged idl nums) v).map (·.1) := by
  rw [c12_dobs_import_export v hz merged idl nums hnd hs hl]
  intro hmem
  simp only [List.map_map, List.mem_map, List.mem_filter, Function.comp] at hmem
  obtain ⟨p, ⟨hp, hnzp⟩, hpe⟩ := hmem
  -- p is the k-th pair because configuration numbers are unique
  obtain ⟨i, hi, rfl⟩ := List.getElem_of_mem hp
  obtain ⟨hi1, hi2⟩ := Nat.lt_min.mp (List.length_zip ▸ hi)
  rw [List.getElem_zip] at hnzp hpe
  obtain rfl : i = k := (hs.nodup hnd).getElem_inj_iff.mp (hpe.trans (List.getElem_eq_getD (h := hk) 0).symm)
  rw [← List.getElem_eq_getD (h := hi2)] at hzero
  rw [hzero] at hnzp
  cases hnzp

/-- the unconditional round-trip statement is false for the format: exact-arithmetic witness, chain (1,2,3)
    with written numbers (1/2, 0, -1/2) -/
theorem c12_zero_marker_drops :
    (dobsImport [1, 2, 3] (dobsColumn (α := Rat) [1, 2, 3] [1, 2, 3] [1 / 2, 0, -1 / 2]) 7).map (·.1) = [1, 3] := by
  decide +kernel

/-- non-vacuity of the round trip: an observable measured on a subset of the merged configurations comes
    back on exactly that subset -/
theorem c12_subset_example :
    dobsImport [1, 2, 3, 4, 5] (dobsColumn (α := Rat) [1, 2, 3, 4, 5] [2, 5] [1 / 4, -1 / 4]) 10
      = [(2, 41 / 4), (5, 39 / 4)] := by
  decide +kernel

/-- **C12 (dobs, lists of observables).**  The merged list written to the file (`_merge_idx`) is the sorted union of
    the configuration lists of all observables; every strictly increasing configuration list that enters the
    union is a sub-list of it, so the hypotheses of the theorems above hold for every member of the list. -/
theorem c12_member_sublist_of_merged (idls : List (List Int)) (idl : List Int) (hmem : idl ∈ idls)
    (hinc : idl.Pairwise (· < ·)) :
    idl.Sublist (Py.sortedSet (idls.flatMap id)) ∧ (Py.sortedSet (idls.flatMap id)).Nodup := by
  have hm := Py.pairwise_sortedSet (idls.flatMap id)
  have hsub : idl ⊆ Py.sortedSet (idls.flatMap id) := fun x hx =>
    Py.mem_sortedSet.mpr (List.mem_flatMap.mpr ⟨idl, hmem, hx⟩)
  have hnd : idl.Nodup := hinc.imp ne_of_lt
  exact ⟨List.sublist_of_subperm_of_pairwise (hnd.subperm hsub) hinc hm, hm.imp ne_of_lt⟩

/-- **C12 (dobs, one chain of one observable end to end).**  For a chain with zero-mean fluctuations `ds` and
    replica mean `r` of an observable with central value `v`, the writer puts `d + (r - v)` in the column; if none
    of these numbers is the marker 0, the import - column scan, `+ v`, `np.average`, subtraction - returns the
    configuration list, every fluctuation and the replica mean exactly. -/
theorem c12_dobs_chain_roundtrip (v r : ℝ) (merged idl : List Int) (ds : List ℝ)
    (hnd : merged.Nodup) (hs : idl.Sublist merged) (hl : ds.length = idl.length) (hne : ds ≠ [])
    (hzero : ds.sum = 0) (hnz : ∀ d ∈ ds, d + (r - v) ≠ 0) :
    dobsChain (dobsImport merged (dobsColumn merged idl (ds.map (· + (r - v)))) v) = (idl, ds, r) := by
  have hz : Scalar.isZero (@OfNat.ofNat ℝ 0 (Scalar.instOfNatScalar 0)) = true := by
    simp [Scalar.isZero, RealS.ofNat_eq_lit, RealS.lit_eq]
  have hl' : idl.length = (ds.map (· + r)).length := by rw [List.length_map, hl]
  rw [c12_dobs_roundtrip_partial v hz merged idl _ hnd hs (by rw [List.length_map, hl])]
  · have hp : (idl.zip (ds.map (· + (r - v)))).map (fun p => (p.1, p.2 + v)) = idl.zip (ds.map (· + r)) := by
      rw [List.zip_map_right, List.zip_map_right, List.map_map]
      exact List.map_congr_left fun p _ => Prod.ext rfl (show p.2 + (r - v) + v = p.2 + r by ring)
    have hm := RealS.mean_shift r hne hzero
    rw [mean] at hm
    rw [hp, dobsChain, List.map_fst_zip hl'.le, List.map_snd_zip hl'.ge, hm, RealS.map_add_sub]
  · intro x hx
    obtain ⟨d, hd, rfl⟩ := List.mem_map.mp hx
    exact Bool.eq_false_iff.mpr fun h => hnz d hd ((RealS.isZero_iff _).mp h)

/-! ### the pobs format (PV/Model/Pobs.lean) -/

open PV.Pobs

/-- **C12 (pobs, reading the table).**  The strided reads `tmp[0 :: na+1]` and `tmp[1+a :: na+1]` of
    `_import_array` applied to the flattened block return the configuration numbers and column `a` - no sample
    moves to another configuration or to another observable, whatever `na` and the number of configurations. -/
theorem c12_pobs_columns (idl : List Int) (cols : List (List α)) :
    stride (cols.length + 1) 0 (rowsOf idl cols).flatten = idl.map Tok.cfg ∧
    ∀ a col, cols[a]? = some col → col.length = idl.length →
      stride (cols.length + 1) (1 + a) (rowsOf idl cols).flatten = col.map Tok.num :=
  stride_rows idl cols

/-- **C12 (pobs round trip).**  For every non-empty list of observables on one ensemble that
    `create_pobs_string` accepts (the same chains on the same configuration lists throughout), that are not
    reweighted (the file does not record the flag), whose fluctuations have zero mean on every chain, whose chains
    have at least five configurations (the constructor refuses fewer) and whose central value is the weighted mean
    of the replica means, reading the written blocks returns exactly the original list: values, chain names,
    configuration lists in their original representation, every fluctuation, every replica mean.  `fix` is the
    treatment of the separator on import (`c12_pobs_separator`). -/
theorem c12_pobs_roundtrip (fix : String → String) (o0 : Obs ℝ) (rest : List (Obs ℝ)) (H : PWritable fix o0 rest) :
    (Pobs.write (o0 :: rest)).bind (readWith fix) = .ok (o0 :: rest) := by
  rw [write_ok H]
  set ol := o0 :: rest
  have hwf : ∀ o ∈ ol, o.WF = true := fun o ho => (H.each o ho).wf
  -- every observable has a sample for every configuration of every chain of the first
  have hcol : ∀ o ∈ ol, ∀ p ∈ o0.reps.map (fun r => (r.name, r.idl)), (colOf o p.1).length = p.2.toList.length := by
    intro o ho
    rw [← H.chains' o ho]
    refine List.forall_mem_map.mpr fun r hr => ?_
    rw [colOf_of_mem (hwf o ho) hr, Rep.samples, List.length_map]
    exact (Obs.wf_iff.mp (hwf o ho)).len r hr
  have hblocks : (o0.reps.map (blockOf ol)).mapM readBlock
      = .ok (o0.reps.map (fun r0 => (r0.idl.toList, ol.map (fun o => colOf o r0.name)))) := by
    rw [List.mapM_map]
    refine mapM_eq_ok_map fun r0 hr0 => ?_
    exact readBlock_written rfl (List.length_map _).symm rfl
      (List.forall_mem_map.mpr fun o ho => hcol o ho (r0.name, r0.idl) (List.mem_map_of_mem hr0))
  unfold readWith
  simp only [Except.bind, bind, hblocks]
  have hna : naOf (o0.reps.map (fun r0 => (r0.idl.toList, ol.map (fun o => colOf o r0.name)))) = ol.length := by
    cases hr : o0.reps with
    | nil =>
      have := (H.each o0 List.mem_cons_self).one
      rw [Obs.mcNames, Obs.names, hr] at this
      cases this
    | cons r1 rs => exact List.length_map _
  rw [hna]
  refine mapM_eq_ok.mpr (forall₂_range fun i hi' => ?_)
  have hom : ol[i] ∈ ol := List.getElem_mem hi'
  have hch := H.chains' _ hom
  -- the three arguments of the constructor, written with the chains of observable `i`
  have hsamp : (o0.reps.map (fun r0 => (r0.idl.toList, ol.map (fun o => colOf o r0.name)))).map (fun b => b.2.getD i [])
      = ol[i].reps.map Rep.samples := by
    rw [List.map_map]
    refine (List.map_congr_left fun r0 _ => ?_).trans ((map_of_map_eq hch.symm fun p => colOf ol[i] p.1).trans
      (List.map_congr_left fun r hr => colOf_of_mem (hwf _ hom) hr))
    exact getD_map_of_lt (fun o => colOf o r0.name) [] hi'
  have hnames : (o0.reps.map (blockOf ol)).map (fun b => fix b.id) = ol[i].names := by
    rw [List.map_map]
    exact (List.map_congr_left fun r hr => H.names r hr).trans (map_of_map_eq hch.symm Prod.fst)
  have hidl : (o0.reps.map (fun r0 => (r0.idl.toList, ol.map (fun o => colOf o r0.name)))).map (fun b => Idl.list b.1)
      = ol[i].reps.map (fun r => Idl.list r.idl.toList) := by
    rw [List.map_map]
    exact map_of_map_eq hch.symm fun p => Idl.list p.2.toList
  rw [hsamp, hnames, hidl, mkObs_rebuild ol[i] (H.each _ hom)]
  rfl

/-- non-vacuity: a two-replica observable (one range, one irregular configuration list) meets every hypothesis
    of `c12_pobs_roundtrip` with `separator_insertion = 1` -/
noncomputable def pobsExample : Obs ℝ :=
  { value := 2,
    reps := [{ name := "A|r1", idl := .range 1 5 1, deltas := [1, -1, 2, -2, 0], rvalue := 1 },
             { name := "A|r2", idl := .list [1, 2, 4, 7, 8], deltas := [3, -3, 1, -1, 0], rvalue := 3 }],
    covs := [] }

example : PWritable (fixOf (some 1)) pobsExample [] := by
  refine ⟨?_, by simp, by decide⟩
  intro o ho
  cases List.mem_singleton.mp ho
  refine ⟨by decide, by decide, rfl, ?_, by decide, rfl, ?_⟩
  · simp only [pobsExample, List.forall_mem_cons]
    norm_num
  · simp [pobsExample, Idl.len, Idl.toList, RealS.sum_eq, RealS.ofNatS_eq]
    norm_num

/-- **C12 (pobs, separator).**  A chain `e|r` without further separators is restored by
    `separator_insertion = len(e)`; a chain without separator by `separator_insertion = None`. -/
theorem c12_pobs_separator (e r : List Char) (he : '|' ∉ e) (hr : '|' ∉ r) :
    fixOf (some e.length) (stripBar (String.ofList (e ++ '|' :: r))) = String.ofList (e ++ '|' :: r) ∧
    fixOf none (stripBar (String.ofList e)) = String.ofList e :=
  ⟨fix_restores e r he hr, fix_none e he⟩

/-- **C12 (pobs, refusal; fix 776c1b2).**  Whatever list the writer accepts has the chains and the
    configuration lists of its first observable throughout: observables on different configuration lists
    are refused instead of being written under the first observable's configuration numbers. -/
theorem c12_pobs_refuses_different_lists (o0 : Obs α) (rest : List (Obs α)) (bs : List (Block α))
    (h : Pobs.write (o0 :: rest) = .ok bs) :
    ∀ o ∈ o0 :: rest, o.reps.map (fun r => (r.name, r.idl.toList)) = o0.reps.map (fun r => (r.name, r.idl.toList)) :=
  fun o ho => ((write_eq_ok.mp h).1 o ho).2.2.2.1

/-- **C12 (pobs, the central value; the known finding in general).**  The file holds no central value: every
    observable `read_pobs` returns has the weighted mean of its replica means as central value.  For an
    observable whose central value is something else (a non-linear function of an observable on two or more
    replicas) the round trip therefore cannot hold - the hypothesis `Rebuildable.primary` of `c12_pobs_roundtrip` is
    necessary. -/
theorem c12_pobs_value_is_weighted_mean (fix : String → String) (bs : List (Block α)) (got : List (Obs α))
    (h : readWith fix bs = .ok got) :
    ∀ o ∈ got, o.value = Scalar.sum (o.reps.map (fun r => Scalar.ofNatS r.idl.len * r.rvalue))
      / Scalar.ofNatS ((o.reps.map (·.idl.len)).foldr (· + ·) 0) := by
  unfold readWith at h
  obtain ⟨blocks, _, h⟩ := Except.bind_eq_ok.mp h
  intro o ho
  obtain ⟨i, _, hi⟩ := (mapM_eq_ok.mp h).exists_of_mem_right ho
  obtain ⟨_, reps, _, rfl⟩ := mkObs_eq_ok.mp (Except.mapError_eq_ok.mp hi)
  rfl

/-- witness in exact arithmetic: two replicas of five configurations with replica means 1 and 3 and central
    value 5 (as for a derived observable); everything but the central value comes back, the value is 2 -/
def pobsWitness : Obs Rat :=
  { value := 5,
    reps := [{ name := "A|r1", idl := .range 1 5 1, deltas := [1, -1, 2, -2, 0], rvalue := 1 },
             { name := "A|r2", idl := .range 1 5 1, deltas := [3, -3, 1, -1, 0], rvalue := 3 }],
    covs := [] }

theorem c12_pobs_derived_value_lost :
    (((Pobs.write [pobsWitness]).bind (Pobs.read (some 1))).toOption.map (fun l => l.map (fun o => (o.value, o.reps.map (fun r => (r.name, r.idl.toList, r.idl.isRange, r.deltas, r.rvalue)))))
      == some [(2, pobsWitness.reps.map (fun r => (r.name, r.idl.toList, r.idl.isRange, r.deltas, r.rvalue)))]) = true := by
  decide +kernel


end PV
