/-
  `Model/Format`: `roundHalfEvenNat q` is `⌊q⌋₊` or the next natural, whichever is nearer (`roundHalfEvenNat_eq`), so Mathlib's bounds
  for the floor give the half-unit bounds of `roundDec` and, with `2 ^ ilog2 q ≤ q` (`ilog2_le`), of `roundDouble`.
-/
import Mathlib.Tactic.Positivity
import Mathlib.Data.Rat.Floor
import PV.Model.Format

namespace PV
open PV.Fmt

/-- the two cases overlap at a remainder of exactly a half: which way the tie goes plays no role below -/
theorem roundHalfEvenNat_eq (q : Rat) : roundHalfEvenNat q = ⌊q⌋₊ ∧ q - ⌊q⌋₊ ≤ 1 / 2 ∨
    roundHalfEvenNat q = ⌊q⌋₊ + 1 ∧ 1 / 2 ≤ q - ⌊q⌋₊ := by
  unfold roundHalfEvenNat
  simp only
  split_ifs with h1 h2 h3
  · exact .inl ⟨rfl, h1.le⟩
  · exact .inr ⟨rfl, h2.le⟩
  · exact .inl ⟨rfl, not_lt.1 h2⟩
  · exact .inr ⟨rfl, not_lt.1 h1⟩

theorem roundHalfEvenNat_abs_sub_le (q : Rat) (hq : 0 ≤ q) : |(roundHalfEvenNat q : Rat) - q| ≤ 1 / 2 := by
  obtain ⟨h, h3⟩ | ⟨h, h3⟩ := roundHalfEvenNat_eq q
  · rw [h, abs_sub_comm, abs_of_nonneg (sub_nonneg.2 (Nat.floor_le hq))]; exact h3
  · rw [h, Nat.cast_succ, abs_of_pos (sub_pos.2 (Nat.lt_floor_add_one q))]; linarith

theorem le_roundHalfEvenNat {q : Rat} {N : Nat} (h : (N : Rat) ≤ q) : N ≤ roundHalfEvenNat q := by
  have := Nat.le_floor h
  obtain ⟨hr, -⟩ | ⟨hr, -⟩ := roundHalfEvenNat_eq q <;> omega

theorem roundHalfEvenNat_le {q : Rat} {N : Nat} (h : q ≤ (N : Rat)) : roundHalfEvenNat q ≤ N := by
  obtain ⟨hr, -⟩ | ⟨hr, h3⟩ := roundHalfEvenNat_eq q
  · exact hr ▸ Nat.floor_le_of_le h
  · have : (⌊q⌋₊ : Rat) < N := by linarith
    rw [hr]; exact_mod_cast this

theorem abs_div_sub_le {x a P B : Rat} (hP : 0 < P) (h : |x - a * P| ≤ B) : |x / P - a| ≤ B / P := by
  rw [div_sub' hP.ne', abs_div, abs_of_pos hP, mul_comm]
  exact div_le_div_of_nonneg_right h hP.le

theorem roundHalfEvenNat_scaled (a P : Rat) (ha : 0 ≤ a) (hP : 0 < P) :
    |(roundHalfEvenNat (a * P) : Rat) / P - a| ≤ 1 / P / 2 := by
  have := abs_div_sub_le hP (roundHalfEvenNat_abs_sub_le _ (mul_nonneg ha hP.le))
  rwa [div_right_comm] at this

theorem pw_eq_zpow (e : Int) :
    (if e ≥ 0 then ((2 ^ e.toNat : Nat) : Rat) else 1 / ((2 ^ (-e).toNat : Nat) : Rat))
      = (2 : Rat) ^ e := by
  split_ifs with h
  · obtain ⟨n, rfl⟩ := Int.eq_ofNat_of_zero_le h
    simp
  · obtain ⟨n, rfl⟩ : ∃ n : Nat, e = -(n : Int) := ⟨(-e).toNat, by omega⟩
    simp

theorem ilog2_le (q : Rat) (hq : 0 < q) : (2 : Rat) ^ (ilog2 q) ≤ q := by
  unfold ilog2
  simp only [pw_eq_zpow]
  split_ifs with h1 h2
  · -- the only case that needs `Nat.log2`: `2 ^ log2 a ≤ a` and `b < 2 ^ (log2 b + 1)` for `q = a / b`
    have hnum : 0 < q.num := Rat.num_pos.mpr hq
    have ha : (2 : Rat) ^ (Nat.log2 q.num.toNat) ≤ (q.num.toNat : Rat) := by
      exact_mod_cast Nat.log2_self_le (by omega)
    have hb : (q.den : Rat) ≤ 2 ^ (Nat.log2 q.den + 1) := by exact_mod_cast Nat.lt_log2_self.le
    rw [sub_sub, ← Nat.cast_add_one, zpow_sub₀ two_ne_zero, zpow_natCast, zpow_natCast]
    calc _ ≤ (q.num.toNat : Rat) / q.den := div_le_div₀ (by positivity) ha (by exact_mod_cast q.den_pos) hb
      _ = q := by rw [← Int.cast_natCast, Int.toNat_of_nonneg hnum.le, Rat.num_div_den]
  · exact h2
  · exact not_lt.mp h1

theorem roundDec_half_unit (q : Rat) (n : Nat) :
    |(roundDec q n).toRat - q| ≤ 1 / ((10 ^ n : Nat) : Rat) / 2 := by
  have hP : (0 : Rat) < ((10 ^ n : Nat) : Rat) := by positivity
  unfold roundDec Dec.toRat
  by_cases hq : q < 0
  · simp only [hq, ↓reduceIte, decide_true, neg_one_mul]
    rw [← abs_neg, neg_sub', neg_neg]
    exact roundHalfEvenNat_scaled (-q) _ (by linarith) hP
  · simp only [hq, ↓reduceIte, decide_false, Bool.false_eq_true, one_mul]
    exact roundHalfEvenNat_scaled q _ (not_lt.1 hq) hP

theorem roundDec_m_bounds {dd : Rat} {n lo hi : Nat} (h0 : 0 ≤ dd)
    (h1 : (lo : Rat) ≤ dd * ((10 ^ n : Nat) : Rat)) (h2 : dd * ((10 ^ n : Nat) : Rat) ≤ (hi : Rat)) :
    lo ≤ (roundDec dd n).m ∧ (roundDec dd n).m ≤ hi := by
  simp only [roundDec, if_neg h0.not_gt]
  exact ⟨le_roundHalfEvenNat h1, roundHalfEvenNat_le h2⟩

theorem roundDouble_rel (q : Rat) (hq : 0 < q) :
    |roundDouble q - q| ≤ q / ((2 ^ 53 : Nat) : Rat) := by
  unfold roundDouble
  rw [if_neg (not_le.mpr hq)]
  simp only [pw_eq_zpow]
  have hl := ilog2_le q hq
  generalize ilog2 q = L at hl
  have h := roundHalfEvenNat_scaled q ((2 : Rat) ^ (L - 52))⁻¹ hq.le (inv_pos.2 (zpow_pos (by norm_num) _))
  rw [← div_eq_mul_inv, div_inv_eq_mul, one_div, inv_inv] at h
  calc _ ≤ _ := h
    _ = (2 : Rat) ^ L / ((2 ^ 53 : Nat) : Rat) := by rw [zpow_sub₀ two_ne_zero, div_div]; norm_num
    _ ≤ _ := div_le_div_of_nonneg_right hl (by positivity)

theorem readBack_same (x : ValErr) (h : x.err.n = x.val.n) : (readBack x).2 = x.err.toRat := by
  unfold readBack
  have : ¬ (x.val.n > 0 ∧ x.err.n = 0) := by omega
  simp only [if_neg this, mul_one]

theorem readBack_scaled (x : ValErr) (h1 : 0 < x.val.n) (h2 : x.err.n = 0) :
    (readBack x).2 = x.err.toRat * (1 / ((10 ^ x.val.n : Nat) : Rat)) := by
  unfold readBack
  simp only [if_pos (And.intro h1 h2)]

end PV
