/-
  Property C04: every observable produced by the library is structurally well-formed (`Spec.wfC04`: `Obs.WF`, and a
  chain held as a range has at least two configurations).  The constructor `mkObs` establishes the invariant and refuses
  the listed malformed requests; `derived_observable`, `correlate`, `merge_obs` and `reweight` preserve it.
-/
import PV.Proofs.WFLemmas
import PV.Proofs.CombineLemmas
import PV.Props.C01

namespace PV

variable {α : Type} [Scalar α]

/-- the C04 invariant contains the propagation invariant used by the C01 theorems -/
theorem c04_wf_implies (o : Obs α) (h : Spec.wfC04 o = true) : o.WF = true :=
  (wfC04_iff.mp h).1

/-- a diagnostic "ok" (`Spec.wfDiag`, written to replay files) implies the first clause of the invariant, sorted unique
    chain names; the other clauses are not stated -/
theorem c04_diag_ok (o : Obs α) (h : Spec.wfDiag o = "ok") : strictSortedStr o.names = true := by
  unfold Spec.wfDiag at h
  by_cases hs : strictSortedStr o.names = true
  · exact hs
  · simp [hs] at h


/- C04 (constructor).  "Whatever `mkObs` accepts satisfies `Spec.wfC04`" is false for the model (`c04_mk_wf_false`): the
   type `Idl` admits `Idl.range s n 0` (a "range" with step 0, which is not a Python object: `range(a, b, 0)` raises
   ValueError), `Idl.normalise` only rejects `st < 0`, and `mkObs` hands a range through unchanged.
   `mkObs [[0,0,0,0,0]] ["a"] (some [.range 0 5 0])` is accepted and yields a chain on the configurations
   `[0,0,0,0,0]`, which violates both `Idl.strictInc` and the `st > 0` clause of `Obs.WF`.  `c04_mk_wf_corrected`
   assumes only that the ranges handed to the constructor have a non-zero step (which every Python `range` has). -/

/-- C04 (constructor) without a hypothesis on the steps of the ranges handed in is refuted, for every scalar type -/
theorem c04_mk_wf_false :
    ¬ ∀ (samples : List (List α)) (names : List String) (idl : Option (List Idl)) (o : Obs α),
        mkObs samples names idl = .ok o → Spec.wfC04 o = true := by
  intro H
  exact Bool.false_ne_true (H [[0, 0, 0, 0, 0]] ["a"] (some [.range 0 5 0]) _ rfl)

/-- C04 (constructor), corrected: whatever `Obs(samples, names, idl)` accepts satisfies the
    invariant (sorted unique chain names, strictly increasing configuration numbers, one
    fluctuation per configuration, range exactly when equally spaced and then at least two
    configurations), provided no `range` handed in has step 0 -/
theorem c04_mk_wf_corrected (samples : List (List α)) (names : List String) (idl : Option (List Idl)) (o : Obs α)
    (hstep : ∀ il, idl = some il → ∀ s n st, Idl.range s n st ∈ il → st ≠ 0)
    (h : mkObs samples names idl = .ok o) : Spec.wfC04 o = true := by
  obtain ⟨_, _, hchk, hfew⟩ := (mkObs_eq_ok.mp h).1
  have hstep' : ∀ s n st, Idl.range s n st ∈ mkIdls samples idl → st ≠ 0 := fun s n st hm => by
    cases idl with
    | some il => exact hstep il rfl s n st hm
    | none =>
      obtain ⟨x, _, hx⟩ := List.mem_map.mp hm
      cases hx
      exact one_ne_zero
  have hc : o.covNames = [] := by rw [Obs.covNames, (mkObs_covs h).1]; rfl
  refine wfC04_of ?_ (fun r hr => ?_) (hc ▸ .nil) (hc ▸ nofun) ((mkObs_covs h).1 ▸ nofun)
  · rw [mkObs_names h]
    by_cases h1 : 1 < names.length
    · exact (Py.nodup_of_length_sortedSetStr (hchk h1).1).2 ▸ Py.pairwise_sortedSetStr names
    · refine List.pairwise_iff_getElem.mpr fun i j hi hj hij => ?_
      rw [(Py.perm_sortBy _ names).length_eq] at hj
      omega
  · obtain ⟨t, ht, htr⟩ := (mkObs_reps h).exists_of_mem_right hr
    obtain ⟨_, hti, hts⟩ := mem_mkTriples ht
    exact mkRep_normal htr (hfew _ hts) fun s n st hteq => hstep' s n st (hteq ▸ hti)

/-- the default call `Obs(samples, names)` (no `idl`) needs no extra hypothesis -/
theorem c04_mk_wf_default (samples : List (List α)) (names : List String) (o : Obs α)
    (h : mkObs samples names none = .ok o) : Spec.wfC04 o = true :=
  c04_mk_wf_corrected samples names none o (fun il e => by cases e) h

/-- C04 (rejections) — each listed malformed request raises -/
theorem c04_reject_length (samples : List (List α)) (names : List String) (idl : Option (List Idl))
    (hbad : samples.length ≠ names.length) : ∃ e, mkObs samples names idl = .error e :=
  mkObs_error_of_not_accepts fun h => hbad h.1

theorem c04_reject_duplicate_names (samples : List (List α)) (names : List String) (idl : Option (List Idl))
    (hlen : 1 < names.length) (hdup : ¬ names.Nodup) : ∃ e, mkObs samples names idl = .error e :=
  mkObs_error_of_not_accepts fun h => hdup (Py.nodup_of_length_sortedSetStr (h.2.2.1 hlen).1).1

theorem c04_reject_too_few (samples : List (List α)) (names : List String) (idl : Option (List Idl))
    (hbad : ∃ s ∈ samples, s.length ≤ 4) : ∃ e, mkObs samples names idl = .error e :=
  mkObs_error_of_not_accepts fun h => by
    obtain ⟨s, hs, hle⟩ := hbad
    have := h.2.2.2 s hs
    omega

theorem c04_reject_several_ensembles (samples : List (List α)) (names : List String) (idl : Option (List Idl))
    (hbad : ∃ a ∈ names, ∃ b ∈ names, Py.ensOf a ≠ Py.ensOf b) : ∃ e, mkObs samples names idl = .error e :=
  mkObs_error_of_not_accepts fun h => by
    obtain ⟨a, ha, b, hb, hne⟩ := hbad
    have hlen : 1 < names.length := two_le_length_of_mem_ne ha hb fun e => hne (e ▸ rfl)
    have := two_le_length_of_mem_ne (Py.mem_sortedSetStr.mpr (List.mem_map_of_mem (f := Py.ensOf) ha))
      (Py.mem_sortedSetStr.mpr (List.mem_map_of_mem (f := Py.ensOf) hb)) hne
    have := (h.2.2.1 hlen).2
    omega

/-- a list of configuration numbers that is not strictly increasing (unsorted or duplicate entries) is rejected by the
    normalisation the constructor applies -/
theorem c04_reject_idl (l : List Int) (hbad : Idl.strictInc l = false) : ∃ e, Idl.normalise (.list l) = .error e :=
  exists_error_of_not_ok fun _ hn => nomatch (Idl.strictInc_of_normalise hn).symm.trans hbad

/-- ... and so is a range with negative step -/
theorem c04_reject_negative_range (s : Int) (n : Nat) (st : Int) (h : st < 0) :
    ∃ e, Idl.normalise (.range s n st) = .error e :=
  ⟨.negativeStep, by simp [Idl.normalise, h]⟩

/-- accepted lists are stored in normal form: a range exactly when equally spaced -/
theorem c04_normalise_form (l : List Int) (i : Idl) (h : Idl.normalise (.list l) = .ok i) :
    i.toList = l ∧ Idl.strictInc l = true ∧ (i.isRange = true ↔ equallySpaced l = true) := by
  have hs := Idl.strictInc_of_normalise h
  obtain ⟨j, hj, htl, hiff⟩ := Idl.normalise_list hs
  cases h.symm.trans hj
  exact ⟨htl, hs, hiff⟩

/-- C04 (propagation): if every input satisfies the invariant and has chains of at least two configurations, and
    covariance inputs of one name agree in matrix and gradient length (`hcov`; `covEq` is arbitrary here), so does every
    result of `derived_observable` -/
theorem c04_derived_wf (f : List ℝ → ℝ) (g : List ℝ) (xs : List (Obs ℝ))
    (covEq : List (List ℝ) → List (List ℝ) → Bool) (o : Obs ℝ)
    (hwf : ∀ x ∈ xs, Spec.wfC04 x = true)
    (hlen2 : ∀ x ∈ xs, ∀ q ∈ x.reps, 2 ≤ q.idl.len)
    (hcov : ∀ x ∈ xs, ∀ c ∈ x.covs, ∀ x' ∈ xs, ∀ c' ∈ x'.covs, c.name = c'.name →
      c.grad.length = c'.grad.length ∧ c.cov = c'.cov)
    (h : derivedObs f g xs covEq = .ok o) :
    Spec.wfC04 o = true ∧ ∀ q ∈ o.reps, 2 ≤ q.idl.len := by
  have hWF : ∀ x ∈ xs, x.WF = true := fun x hx => c04_wf_implies x (hwf x hx)
  have hnames := c01_chains f g xs covEq o h
  have hunion := c01_union f g xs covEq o hWF h
  have hnorm := c01_range_normal_corrected f g xs covEq o hWF (fun x hx q hq _ => hlen2 x hx q hq) h
  have hreps : ∀ r ∈ o.reps, 2 ≤ r.idl.len ∧ r.deltas.length = r.idl.len := derivedObs_forall_reps h fun n hn => by
    rw [Idl.len, resRep_idl_toList f g hWF n]
    exact ⟨two_le_union hWF hlen2 hn, (congrArg List.length (newDeltas_eq g hWF n)).trans (List.length_map _)⟩
  obtain ⟨_, hcl, allcov, hcc, rfl⟩ := derivedObs_eq_ok.mp h
  obtain ⟨hcsub, hcovs⟩ := derivedCore_covs f g xs allcov
  refine ⟨wfC04_of (hnames ▸ pairwise_newSampleNames xs)
    (fun r hr => ⟨Idl.normal_of (hunion r hr ▸ Idl.strictInc_sortedSet _) (hreps r hr).1 (hnorm r hr), (hreps r hr).2⟩)
    ((Py.pairwise_sortedSetStr _).sublist hcsub) (fun n hn => ?_) (fun c hc => ?_), fun r hr => (hreps r hr).1⟩
  · obtain ⟨x, hx, hnx⟩ := List.mem_flatMap.mp (Py.mem_sortedSetStr.mp (hcsub.subset hn))
    exact ⟨((Obs.wf_iff.mp (hWF x hx)).covName n hnx).1, fun hmem => (mem_newSampleNames.mp (hnames ▸ hmem)).2 x hx hnx⟩
  · obtain ⟨hmem, p, ps, hparts, hgrad⟩ := hcovs c hc
    rcases collectCov_spec covEq _ [] allcov hcc _ hmem with h0 | ⟨c', hc', hn', hcov'⟩
    · cases h0
    simp only at hn' hcov'
    obtain ⟨x, hx, hcx⟩ := List.mem_flatMap.mp hc'
    have hpl : ∀ q ∈ partsOf g xs c.name, q.length = c'.grad.length := fun q hq => by
      obtain ⟨_, x'', hx'', c'', hc'', hn'', rfl⟩ := mem_partsOf hq
      simpa using (hcov x'' hx'' c'' hc'' x hx c' hcx (hn''.trans hn'.symm)).1
    have hp := hpl p (hparts ▸ List.mem_cons_self)
    have hgl : c.grad.length = c'.grad.length :=
      hgrad ▸ (foldl_addLists fun q hq => (hpl q (hparts ▸ List.mem_cons_of_mem p hq)).trans hp.symm).1.trans hp
    rw [← hcov', hgl]
    exact (Obs.wf_iff.mp (hWF x hx)).covShape c' hcx



variable {α : Type} [Elem α]

/-- every chain of a constructed observable has at least five configurations (the constructor's
    "fewer than 5 samples" refusal), and the constructed observable carries no covariance input -/
theorem c04_mk_len (samples : List (List α)) (names : List String) (idl : Option (List Idl)) (o : Obs α)
    (h : mkObs samples names idl = .ok o) : (∀ r ∈ o.reps, 5 ≤ r.idl.len) ∧ o.covs = [] := by
  refine ⟨fun r hr => ?_, (mkObs_covs h).1⟩
  obtain ⟨⟨n, i, s⟩, ht, htr⟩ := (mkObs_reps h).exists_of_mem_right hr
  obtain ⟨_, _, hl, rfl⟩ := mkRep_eq_ok.mp htr
  have := (mkObs_eq_ok.mp h).1.2.2.2 _ (mem_mkTriples ht).2.2
  simp only at this hl ⊢
  omega

/-- C04 (closure): whatever `correlate(a, b)` returns satisfies the invariant, if `a` does -/
theorem c04_correlate_wf (a b o : Obs α) (ha : Spec.wfC04 a = true) (h : correlate a b = .ok o) :
    Spec.wfC04 o = true := by
  obtain ⟨_, _, _, _, o', ho', rfl⟩ := C05.correlate_eq_ok.mp h
  rw [wfC04_reweighted]
  exact c04_mk_wf_corrected _ _ _ o' (Obs.wf_iff.mp (c04_wf_implies a ha)).step_ne_zero ho'

/-- C04 (closure): whatever `merge_obs(l)` returns satisfies the invariant, if every member of `l` does -/
theorem c04_merge_wf (l : List (Obs α)) (o : Obs α) (hl : ∀ x ∈ l, Spec.wfC04 x = true) (h : mergeObs l = .ok o) :
    Spec.wfC04 o = true := by
  obtain ⟨_, _, o', ho', rfl⟩ := C05.mergeObs_ok h
  rw [wfC04_reweighted]
  refine c04_mk_wf_corrected _ _ _ o' (fun il e s n st hm => ?_) ho'
  cases e
  obtain ⟨r, hr, hri⟩ := List.mem_map.mp hm
  obtain ⟨x, hx, hrx⟩ := List.mem_flatMap.mp (Py.mem_sortBy.mp hr)
  exact ((Obs.wf_iff.mp (c04_wf_implies x (hl x hx))).range_step (List.mem_map.mpr ⟨r, hrx, hri⟩)).ne'

/-- C04 (closure): whatever `reweight(w, [o])` returns satisfies the invariant, if `w` and `o` do and every chain of
    `w` has at least two configurations (both settings of `all_configs`) -/
theorem c04_reweight_wf (w o res : Obs ℝ) (ac : Bool)
    (hw : Spec.wfC04 w = true) (hw2 : ∀ q ∈ w.reps, 2 ≤ q.idl.len) (ho : Spec.wfC04 o = true)
    (h : reweight1 w o ac = .ok res) : Spec.wfC04 res = true := by
  obtain ⟨_, _, _, _, wred, tmp, norm, _, htmp, hnorm, hdiv⟩ := C05.reweight1_ok h
  obtain ⟨r, hr, rfl⟩ := C05.rwDiv_ok hdiv
  rw [wfC04_reweighted]
  have hstep := (Obs.wf_iff.mp (c04_wf_implies o ho)).step_ne_zero
  have htw := c04_mk_wf_corrected _ _ _ tmp hstep htmp
  obtain ⟨htl, htc⟩ := c04_mk_len _ _ _ tmp htmp
  have hnw : Spec.wfC04 norm = true ∧ (∀ q ∈ norm.reps, 2 ≤ q.idl.len) := by
    split_ifs at hnorm
    · exact hnorm ▸ ⟨hw, hw2⟩
    · exact ⟨c04_mk_wf_corrected _ _ _ norm hstep hnorm,
        fun q hq => Nat.le_trans (by decide) ((c04_mk_len _ _ _ norm hnorm).1 q hq)⟩
  have pair {P : Obs ℝ → Prop} (ht : P tmp) (hn : P norm) : ∀ x ∈ [tmp, norm], P x :=
    List.forall_mem_cons.mpr ⟨ht, List.forall_mem_singleton.mpr hn⟩
  refine (c04_derived_wf _ _ [tmp, norm] _ r (pair htw hnw.1)
    (pair (fun q hq => Nat.le_trans (by decide) (htl q hq)) hnw.2) ?_ hr).1
  -- `tmp` carries no covariance input, and those of `norm` have distinct names
  intro x hx c hc x' hx' c' hc' e
  have hcov := pair (P := fun y => ∀ d ∈ y.covs, d ∈ norm.covs) (fun d hd => by rw [htc] at hd; cases hd) fun d hd => hd
  cases List.inj_on_of_nodup_map (Obs.wf_iff.mp (c04_wf_implies _ hnw.1)).covNames_nodup
    (hcov x hx c hc) (hcov x' hx' c' hc') e
  exact ⟨rfl, rfl⟩


end PV
