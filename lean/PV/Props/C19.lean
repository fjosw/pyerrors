/-
  Property C19 — printed value(error) strings agree with value and error.
  The arithmetic part; the rendered strings are compared with CPython's, string for string, by the driver.
-/
import PV.Proofs.FormatLemmas

namespace PV
open PV.Fmt

/-- C19 (format flags): a flag leaves the string as it is or is put in front of it -/
theorem c19_flag (flag s : String) :
    withFlag flag s = s ∨ withFlag flag s = flag ++ s := by
  unfold withFlag
  split <;> simp

/-- C19 (complex observables): the plain string form and the formatted form of a complex observable join real and imaginary
    part by the same rule - for EVERY pair of part strings: exactly one sign character stands between them, the imaginary
    part's own '-' or else a '+'.  (A `str` that decides from `value >= 0` prints "+-0.00(..)" for the value -0.0.) -/
theorem c19_cobs_str_is_format (re im : String) : cobsStr re im = cobsFormat re im := by
  unfold cobsStr cobsFormat withFlag
  by_cases h : im.startsWith "-" = true
  · simp [h]
  · simp [h, String.append_assoc]

/-- the witness of that defect: a negative-zero imaginary part -/
theorem c19_cobs_negative_zero : cobsStr "1.00(10)" "-0.00(22)" = "(1.00(10)-0.00(22)j)" := by decide +kernel

/-- C19 examples: carry across a power of ten (0.0996 at two digits prints 100 units of the third decimal), tie to
    even, a negative value that rounds to zero keeps its sign, an error ≥ 10^sig prints all its integer digits -/
theorem c19_examples :
    (formatUncertainty (617 / 500) (249 / 2500) 2 (-2)).render = "1.234(100)" ∧
    (formatUncertainty (1 / 8) (1 / 4) 1 (-1)).render = "0.1(2)" ∧
    (formatUncertainty (-1 / 1000) (3 / 2) 2 0).render = "-0.0(1.5)" ∧
    (formatUncertainty 12345 678 2 2).render = "12345(678)" := by
  decide +kernel

/-- rounding to n decimals (ties to even) is within half a unit of the last digit -/
theorem c19_round_half_unit (q : Rat) (n : Nat) :
    |(roundDec q n).toRat - q| ≤ 1 / (2 * ((10 ^ n : Nat) : Rat)) := by
  have := roundDec_half_unit q n
  rwa [div_div, mul_comm] at this

/-- the rounded numeral keeps the sign and the number of decimals -/
theorem c19_roundDec_shape (q : Rat) (n : Nat) : (roundDec q n).n = n ∧ ((roundDec q n).neg = true ↔ q < 0) := by
  simp [roundDec]

/-- C19 (value): reading the printed value back recovers it within half a unit of the last
    printed digit — in all three branches, for every significance -/
theorem c19_roundtrip_value (v d : Rat) (sig : Nat) (fexp : Int) :
    let x := formatUncertainty v d sig fexp
    |(readBack x).1 - v| ≤ unit x / 2 := by
  intro x
  simp only [x, formatUncertainty]
  split_ifs <;> exact roundDec_half_unit v _

/-- C19 (error, errors ≥ 1): value and error are printed with the same number of decimals and the
    error is read back within half a unit -/
theorem c19_roundtrip_error_ge1 (v d : Rat) (sig : Nat) (fexp : Int) (hf : 0 ≤ fexp) (hd : 0 ≤ d) :
    let x := formatUncertainty v d sig fexp
    x.err.n = x.val.n ∧ |(readBack x).2 - d| ≤ unit x / 2 := by
  intro x
  simp only [x, formatUncertainty, if_neg hf.not_gt]
  split_ifs <;> exact ⟨rfl, by rw [readBack_same _ rfl]; exact roundDec_half_unit d _⟩

/-- C19 (error, errors < 1): the error is printed as an integer number of units of the last
    printed digit of the value and read back within half a unit plus the rounding of the one
    floating-point product the code performs -/
theorem c19_roundtrip_error_lt1 (v d : Rat) (sig : Nat) (fexp : Int) (hf : fexp < 0) (hsig : 1 ≤ sig) (hd : 0 < d) :
    let x := formatUncertainty v d sig fexp
    x.err.n = 0 ∧ 0 < x.val.n ∧ |(readBack x).2 - d| ≤ unit x / 2 + d / ((2 ^ 53 : Nat) : Rat) := by
  intro x
  have hk : 0 < ((-fexp) + sig - 1).toNat := by omega
  simp only [x, formatUncertainty, if_pos hf]
  refine ⟨rfl, hk, ?_⟩
  generalize ((-fexp) + sig - 1).toNat = k at hk
  have hP : (0 : Rat) < ((10 ^ k : Nat) : Rat) := by positivity
  have hrel := roundDouble_rel _ (mul_pos hd hP)
  have hdec := roundDec_half_unit (roundDouble (d * ((10 ^ k : Nat) : Rat))) 0
  rw [show (1 : Rat) / ((10 ^ 0 : Nat) : Rat) / 2 = 1 / 2 by norm_num] at hdec
  rw [readBack_scaled _ hk rfl, mul_one_div]
  -- printed integer E, double R = fl(d 10^k): |E - d 10^k| ≤ |E - R| + |R - d 10^k|
  refine (abs_div_sub_le hP ((abs_sub_le _ _ _).trans (add_le_add hdec hrel))).trans_eq ?_
  rw [add_div, div_right_comm, div_right_comm (d * _), mul_div_cancel_right₀ _ hP.ne']
  rfl

/-- C19 (significant digits, 1 ≤ error < 10): the error shows `sig` digits (one more after a carry) -/
theorem c19_sig_digits_unit (v d : Rat) (sig : Nat) (hsig : 1 ≤ sig) (h1 : 1 ≤ d) (h2 : d < 10) :
    let x := formatUncertainty v d sig 0
    10 ^ (sig - 1) ≤ x.err.m ∧ x.err.m ≤ 10 ^ sig := by
  intro x
  simp only [x, formatUncertainty, if_neg (lt_irrefl (0 : Int)), beq_self_eq_true, if_true]
  have hpow : 10 ^ sig = 10 * 10 ^ (sig - 1) := by rw [← pow_succ', Nat.sub_add_cancel hsig]
  apply roundDec_m_bounds (zero_le_one.trans h1)
  · exact le_mul_of_one_le_left (Nat.cast_nonneg _) h1
  · rw [hpow, Nat.cast_mul]
    exact mul_le_mul_of_nonneg_right h2.le (Nat.cast_nonneg _)

/-- C19 (significant digits, error < 1) in terms of the rounded product dd = fl(d · 10^k):
    if 10^(sig-1) ≤ dd < 10^sig then sig digits (one more after a carry) are shown -/
theorem c19_sig_digits_small (dd : Rat) (sig : Nat) (hsig : 1 ≤ sig)
    (h1 : ((10 ^ (sig - 1) : Nat) : Rat) ≤ dd) (h2 : dd < ((10 ^ sig : Nat) : Rat)) :
    10 ^ (sig - 1) ≤ (roundDec dd 0).m ∧ (roundDec dd 0).m ≤ 10 ^ sig := by
  have h0 : (0 : Rat) ≤ dd := le_trans (by positivity) h1
  apply roundDec_m_bounds h0
  · simpa using h1
  · simpa using le_of_lt h2

end PV
