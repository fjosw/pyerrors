/-
  The affine relabelling `c ↦ a*c + b` (a ≥ 1) of the configuration numbers commutes with every integer
  bookkeeping step of the Gamma method, hence leaves the Γ table unchanged.
-/
import PV.Proofs.RLength
import PV.Model.Relabel

namespace PV

variable {α : Type}

theorem Rep.affine_idl (a b : Int) (r : Rep α) : (r.affine a b).idl = r.idl.affine a b := rfl
theorem Rep.affine_deltas (a b : Int) (r : Rep α) : (r.affine a b).deltas = r.deltas := rfl

variable (a b : Int)

theorem foldl_gcd_scale (l : List Int) (g : Nat) :
    (l.map (a * ·)).foldl (fun g d => Nat.gcd g d.natAbs) (a.natAbs * g)
      = a.natAbs * l.foldl (fun g d => Nat.gcd g d.natAbs) g := by
  rw [List.foldl_map]
  exact List.foldl_hom (a.natAbs * ·) fun x y => by rw [Int.natAbs_mul, Nat.gcd_mul_left]

theorem diffs_affine (l : List Int) :
    Idl.diffs (l.map (fun c => a * c + b)) = (Idl.diffs l).map (a * ·) := by
  induction l with
  | nil => rfl
  | cons x xs ih =>
    cases xs with
    | nil => rfl
    | cons y ys =>
      simp only [List.map_cons, Idl.diffs] at ih ⊢
      rw [ih]
      congr 1
      ring

theorem Idl.toList_affine (i : Idl) :
    (i.affine a b).toList = i.toList.map (fun c => a * c + b) := by
  cases i with
  | range s n st =>
    simp only [Idl.affine, Idl.toList, List.map_map]
    congr 1
    funext k
    simp only [Function.comp]
    ring
  | list l => rfl

theorem Idl.len_affine (i : Idl) : (i.affine a b).len = i.len := by
  simp only [Idl.len, Idl.toList_affine, List.length_map]

theorem Idl.first_affine (i : Idl) (h : i.toList ≠ []) :
    (i.affine a b).first = a * i.first + b := by
  unfold Idl.first
  rw [Idl.toList_affine]
  cases hl : i.toList with
  | nil => exact absurd hl h
  | cons x xs => rfl

theorem Idl.last_affine (i : Idl) (h : i.toList ≠ []) :
    (i.affine a b).last = a * i.last + b := by
  unfold Idl.last
  rw [Idl.toList_affine]
  cases hl : i.toList with
  | nil => exact absurd hl h
  | cons x xs =>
    simp only [List.map_cons, List.getLastD_cons]
    exact List.getLastD_map (f := fun c => a * c + b)

theorem Idl.last_sub_first_affine (i : Idl) :
    (i.affine a b).last - (i.affine a b).first = a * (i.last - i.first) := by
  by_cases h : i.toList = []
  · have h' : (i.affine a b).toList = [] := by rw [Idl.toList_affine, h]; rfl
    simp [Idl.last, Idl.first, h, h']
  · rw [Idl.first_affine a b i h, Idl.last_affine a b i h]; ring

variable (ha : 1 ≤ a)
include ha

theorem repGap_affine (i : Idl) :
    repGap (i.affine a b) = a * repGap i := by
  cases i with
  | range s n st => rfl
  | list l =>
    have h := foldl_gcd_scale a (Idl.diffs l) 0
    rw [Nat.mul_zero] at h
    rw [Idl.affine, repGap, repGap, diffs_affine, h, Int.natCast_mul, Int.natAbs_of_nonneg (by omega)]

section
variable [Scalar α]

omit [Scalar α] in
theorem determineGap_affine (ens : String) (reps : List (Rep α)) (hne : reps ≠ []) :
    determineGap ens (reps.map (Rep.affine a b))
      = (match determineGap ens reps with
         | .ok g => .ok (a * g)
         | .error e => .error e) := by
  unfold determineGap
  have hg : (reps.map (Rep.affine a b)).map (fun r => repGap r.idl)
      = (reps.map (fun r => repGap r.idl)).map (a * ·) := by
    simp only [List.map_map, Function.comp_def, Rep.affine_idl, repGap_affine a b ha]
  simp only [hg]
  generalize hG : reps.map (fun r => repGap r.idl) = G
  cases G with
  | nil => exact absurd (List.map_eq_nil_iff.mp hG) hne
  | cons g gs =>
    have hmin : ((g :: gs).map (a * ·)).foldl min (((g :: gs).map (a * ·)).headD 1)
        = a * (g :: gs).foldl min ((g :: gs).headD 1) :=
      List.foldl_map_hom fun x y => (mul_min_of_nonneg x y (by omega)).symm
    rw [hmin]
    have hall : ((g :: gs).map (a * ·)).all
          (fun x => Py.fmod x (a * (g :: gs).foldl min ((g :: gs).headD 1)) == 0)
        = (g :: gs).all (fun x => Py.fmod x ((g :: gs).foldl min ((g :: gs).headD 1)) == 0) := by
      rw [List.all_map]
      congr 1
      funext x
      simp only [Function.comp, Py.fmod, Int.mul_fmod_mul_of_pos _ _ (show 0 < a by omega)]
      exact Bool.eq_iff_iff.mpr (by rw [beq_iff_eq, beq_iff_eq, Int.mul_eq_zero]; exact or_iff_right (by omega))
    rw [hall]
    split <;> rfl

theorem rLength_affine (i : Idl) (g : Int) :
    rLength (i.affine a b) (a * g) = rLength i g := by
  have hpos : 0 < a := by omega
  have h := Idl.last_sub_first_affine a b i
  simp only [rLength, Py.fdiv, h, Int.mul_fdiv_mul_of_pos _ _ hpos]

theorem scatterE_affine (deltas : List α) (i : Idl) (g : Int) :
    scatterE deltas (i.affine a b) (a * g) = scatterE deltas i g := by
  have hpos : 0 < a := by omega
  have hsize : Py.fdiv ((i.affine a b).last - (i.affine a b).first + a * g) (a * g)
      = Py.fdiv (i.last - i.first + g) g := by
    rw [Idl.last_sub_first_affine, ← Int.mul_add]
    exact Int.mul_fdiv_mul_of_pos _ _ hpos
  rw [scatterE, hsize, Idl.toList_affine, List.zip_map_left, List.foldl_map]
  -- configuration `a c + b` of the relabelled chain goes where `c` went
  refine List.foldl_ext _ _ _ fun acc x hx => ?_
  have hne : i.toList ≠ [] := List.ne_nil_of_mem (List.of_mem_zip hx).1
  simp only [Idl.slot, Prod.map_fst, Prod.map_snd, id, Idl.first_affine a b i hne]
  rw [show a * x.1 + b - (a * i.first + b) = a * (x.1 - i.first) by ring, Py.fdiv, Py.fdiv,
    Int.mul_fdiv_mul_of_pos _ _ hpos]

theorem expandDeltas_affine (deltas : List α) (i : Idl) (g : Int) :
    expandDeltas deltas (i.affine a b) (a * g) = expandDeltas deltas i g := by
  rw [expandDeltas_eq, expandDeltas_eq]
  cases i with
  | range s n st =>
    refine ite_congr ?_ (fun _ => rfl) fun _ => scatterE_affine a b ha deltas (.range s n st) g
    rw [beq_iff_eq, beq_iff_eq, Int.mul_eq_mul_left_iff (by omega)]
  | list l => exact scatterE_affine a b ha deltas (.list l) g

theorem calcGamma_affine (deltas : List α) (i : Idl) (w : Nat) (g : Int) :
    calcGamma deltas (i.affine a b) w (a * g) = calcGamma deltas i w g := by
  unfold calcGamma
  rw [expandDeltas_affine a b ha]

end

variable {α : Type} [Transc α]

theorem gammaTable_affine (reps : List (Rep α)) (w : Nat) (g : Int) :
    gammaTable (reps.map (Rep.affine a b)) w (a * g) = gammaTable reps w g := by
  simp only [gammaTable, List.foldl_map, Rep.affine_idl, Rep.affine_deltas, calcGamma_affine a b ha, Idl.len_affine]

end PV
