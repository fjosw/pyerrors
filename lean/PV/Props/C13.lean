/-
  Property C13 — jackknife and bootstrap export / import are exact resampling transforms.
-/
import PV.Proofs.ResampleLemmas

namespace PV

/-- over `Rat`: the leave-one-out means of (1,2,3,6) with value 3, the import restores the samples, and the
    bootstrap means for a two-row table -/
theorem c13_example :
    exportJack (3 : Rat) [1, 2, 3, 6] = [3, 11 / 3, 10 / 3, 3, 2] ∧
    importJack (exportJack (3 : Rat) [1, 2, 3, 6]) = (3, [1, 2, 3, 6]) ∧
    exportBoot (3 : Rat) [1, 2, 3, 6] [[0, 0, 3, 3], [1, 2, 3, 0]] = [3, 7 / 2, 3] := by
  decide +kernel

/-- C13 (leave-one-out): when the central value is the sample mean, entry i+1 of the exported
    jackknife samples is the mean of all samples except x_i, and entry 0 is the central value -/
theorem c13_jack_loo (x : List ℝ) (hn : 2 ≤ x.length) (i : Nat) (hi : i < x.length) :
    (exportJack (meanL x) x).getD 0 0 = meanL x ∧
    (exportJack (meanL x) x).getD (i + 1) 0 = (x.sum - x.getD i 0) / ((x.length : ℝ) - 1) := by
  rw [exportJack_mean x (length_ne_zero_sub_one x hn).1]
  exact ⟨rfl, getD_map_getD _ hi _ _⟩

/-- C13 (import inverts export): the samples reconstructed from the exported jackknife samples are
    the original ones, and the central value is restored -/
theorem c13_jack_inv (x : List ℝ) (hn : 2 ≤ x.length) :
    importJack (exportJack (meanL x) x) = (meanL x, x) := by
  obtain ⟨h0, h1⟩ := length_ne_zero_sub_one x hn
  rw [exportJack_mean x h0, importJack_real, jack_sum x h1, List.length_map, List.map_map]
  refine congrArg _ (List.map_id'' (fun xi => ?_) x)
  rw [Function.comp, mul_div_cancel₀ _ h1, sub_sub_cancel]

/-- C13 (jackknife variance): the jackknife variance (n−1)/n · Σ (j_i − j̄)² of the exported samples is Σ δ²/(n(n−1)),
    the squared naive (S = 0) error of the mean -/
theorem c13_jack_var (x : List ℝ) (hn : 2 ≤ x.length) :
    let n : ℝ := x.length
    let js := (exportJack (meanL x) x).drop 1
    let jbar := js.sum / n
    (n - 1) / n * (js.map (fun j => (j - jbar) ^ 2)).sum
      = (x.map (fun xi => (xi - meanL x) ^ 2)).sum / (n * (n - 1)) := by
  obtain ⟨h0, h1⟩ := length_ne_zero_sub_one x hn
  -- the deviation of a leave-one-out mean from the mean is that of the left-out sample, over `1 - n`
  have hdev (xi : ℝ) : ((x.sum - xi) / ((x.length : ℝ) - 1) - x.sum / x.length) ^ 2
      = (((x.length : ℝ) - 1)⁻¹) ^ 2 * (xi - x.sum / x.length) ^ 2 := by
    rw [div_sub' h1, sub_one_mul, mul_div_cancel₀ _ h0]
    ring
  simp only [exportJack_mean x h0, List.drop_succ_cons, List.drop_zero, jack_sum x h1, List.map_map, Function.comp_def]
  simp only [meanL_real, hdev, List.sum_map_mul_left]
  field_simp

/-- C13 (bootstrap export): entry b+1 is the sum over the configurations row b resamples, divided by the length
    of the chain (the mean over the row when the row has that length: `c13_boot_checked_mean`) -/
theorem c13_boot_export (v : ℝ) (x : List ℝ) (table : List (List Nat)) (b : Nat) (hb : b < table.length) :
    (exportBoot v x table).getD 0 0 = v ∧
    (exportBoot v x table).getD (b + 1) 0
      = ((table.getD b []).map (fun k => x.getD k 0)).sum / (x.length : ℝ) := by
  rw [exportBoot_real]
  exact ⟨rfl, getD_map_getD _ hb _ _⟩

/-- C13 (bootstrap export): when `export_bootstrap(samples, random_numbers=table)` accepts the table it returns the
    central value and then, for each of the `samples` rows, the mean over the configurations that row selects ... -/
theorem c13_boot_checked_mean (samples : Nat) (v : ℝ) (x : List ℝ) (table : List (List Nat)) (out : List ℝ)
    (h : exportBootChecked samples v x table = some out) (b : Nat) (hb : b < samples) :
    out.length = samples + 1 ∧ out.getD 0 0 = v ∧
    out.getD (b + 1) 0 = ((table.getD b []).map (fun k => x.getD k 0)).sum / ((table.getD b []).length : ℝ) := by
  simp only [exportBootChecked_eq, Option.ite_none_right_eq_some, Option.some.injEq] at h
  obtain ⟨⟨rfl, hrows⟩, rfl⟩ := h
  have hrow : (table.getD b []).length = x.length :=
    hrows _ (List.getElem_eq_getD (h := hb) [] ▸ List.getElem_mem hb)
  rw [hrow]
  exact ⟨exportBoot_length v x table, c13_boot_export v x table b hb⟩

/-- ... and a table of any other shape is refused -/
theorem c13_boot_refuses_other_shape (samples : Nat) (v : ℝ) (x : List ℝ) (table : List (List Nat))
    (h : table.length ≠ samples ∨ ∃ row ∈ table, row.length ≠ x.length) :
    exportBootChecked samples v x table = none := by
  rw [exportBootChecked_eq, if_neg]
  rintro ⟨h1, h2⟩
  obtain h | ⟨row, hr, hne⟩ := h
  · exact h h1
  · exact hne (h2 row hr)

/-- non-vacuity: a 2 x 3 table for 2 samples of 3 configurations is accepted -/
example : (exportBootChecked 2 (2 : Rat) [1, 2, 3] [[0, 0, 1], [2, 1, 1]]).isSome = true := by decide +kernel

/-- C13 (chain consistency): with the same resampling table the export is linear, so samples of a
    linear combination are the linear combination of the samples -/
theorem c13_boot_linear (v w a : ℝ) (x y : List ℝ) (hl : x.length = y.length) (table : List (List Nat)) :
    exportBoot (v + a * w) (List.zipWith (fun s t => s + a * t) x y) table
      = List.zipWith (fun s t => s + a * t) (exportBoot v x table) (exportBoot w y table) := by
  simp only [exportBoot_real, List.zipWith_cons_cons, List.zipWith_map, List.zipWith_self,
    List.length_zipWith, ← hl, Nat.min_self, List.cons.injEq, true_and]
  refine List.map_congr_left fun row _ => ?_
  simp only [getD_zipWith_add_mul a x y hl, List.sum_map_add, List.sum_map_mul_left]
  ring

/-- C13 (bootstrap import): when the resampling table has full column rank — no non-zero chain of
    that length is resampled to zero in every bootstrap sample — the exported samples determine the
    chain: two chains with the same samples under the same table are equal.  Whatever the import
    solves for, the original fluctuations are the only candidate. -/
theorem c13_boot_determined (table : List (List Nat)) (n : Nat)
    (hrank : ∀ z : List ℝ, z.length = n →
      (∀ b, b < table.length → (exportBoot 0 z table).getD (b + 1) 0 = 0) → ∀ k, k < n → z.getD k 0 = 0)
    (v w : ℝ) (x y : List ℝ) (hx : x.length = n) (hy : y.length = n)
    (h : (exportBoot v x table).drop 1 = (exportBoot w y table).drop 1) : x = y := by
  have hl := hx.trans hy.symm
  -- the difference chain `z = x - y` is resampled to zero in every row, so it vanishes
  have hz := hrank (List.zipWith (fun s t => s + -1 * t) x y) (by simp [hx, hy]) fun b _ => by
    have hE : (exportBoot v x table).getD (b + 1) 0 = (exportBoot w y table).getD (b + 1) 0 := by
      simpa only [List.getD_eq_getElem?_getD, List.getElem?_drop, Nat.add_comm 1] using congrArg (·.getD b 0) h
    -- entry `b + 1` does not depend on the central value
    rw [show (exportBoot 0 _ table).getD (b + 1) 0 = (exportBoot (v + -1 * w) _ table).getD (b + 1) 0 from rfl,
      c13_boot_linear v w (-1) x y hl, getD_zipWith_add_mul _ _ _ (by rw [exportBoot_length, exportBoot_length]), hE,
      neg_one_mul, add_neg_cancel]
  refine List.ext_getElem hl fun k h1 h2 => ?_
  have := hz k (hx ▸ h1)
  rwa [getD_zipWith_add_mul _ _ _ hl, ← List.getElem_eq_getD (h := h1), ← List.getElem_eq_getD (h := h2), neg_one_mul,
    add_neg_eq_zero] at this

/-- the rank hypothesis is satisfiable: the table that resamples configuration 0 twice, then 1 twice -/
example : ∀ z : List ℝ, z.length = 2 →
    (∀ b, b < [[0, 0], [1, 1]].length → (exportBoot 0 z [[0, 0], [1, 1]]).getD (b + 1) 0 = 0) →
    ∀ k, k < 2 → z.getD k 0 = 0 := by
  intro z hz h k hk
  -- row `k` is `[k, k]`, with mean `(z_k + z_k) / 2`
  have hm := (c13_boot_export 0 z [[0, 0], [1, 1]] k hk).2.symm.trans (h k hk)
  match k, hk with
  | 0, _ | 1, _ => simpa [hz] using hm

end PV
