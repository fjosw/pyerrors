/-
  Property C15 — mathematical backbone of the root variants of the effective mass: when does the ratio equation
  cosh(m (t - T/2)) / cosh(m (t + 1 - T/2)) = C(t) / C(t+1) have a real solution?  These theorems justify the
  classification the check uses for the clause "undefined where the formula has no real solution".
-/
import Mathlib.Analysis.SpecialFunctions.Trigonometric.DerivHyp

namespace PV
open Real

/-- with a = t - T/2 further from 0 than b = t + 1 - T/2 (the first half of the lattice) the cosh ratio is at
    least 1 for every mass ... -/
theorem c15_cosh_ratio_ge_one (m a b : ℝ) (h : |b| ≤ |a|) : 1 ≤ cosh (m * a) / cosh (m * b) := by
  rw [le_div_iff₀ (cosh_pos _), one_mul, cosh_le_cosh, abs_mul, abs_mul]
  exact mul_le_mul_of_nonneg_left h (abs_nonneg m)

/-- ... and at most 1 in the second half -/
theorem c15_cosh_ratio_le_one (m a b : ℝ) (h : |a| ≤ |b|) : cosh (m * a) / cosh (m * b) ≤ 1 :=
  (div_le_one (cosh_pos _)).mpr ((one_le_div (cosh_pos _)).mp (c15_cosh_ratio_ge_one m b a h))

/-- **C15 (no real solution, first half).**  If C(t)/C(t+1) < 1 at a timeslice of the first half (|t+1-T/2| ≤ |t-T/2|),
    no real mass solves the cosh-ratio equation: the property demands an undefined timeslice there. -/
theorem c15_cosh_no_solution_first_half (a b rv : ℝ) (h : |b| ≤ |a|) (hr : rv < 1) :
    ∀ m : ℝ, cosh (m * a) / cosh (m * b) ≠ rv :=
  fun m hm => (hm ▸ c15_cosh_ratio_ge_one m a b h).not_gt hr

/-- **C15 (no real solution, second half).**  Likewise for C(t)/C(t+1) > 1 in the second half. -/
theorem c15_cosh_no_solution_second_half (a b rv : ℝ) (h : |a| ≤ |b|) (hr : 1 < rv) :
    ∀ m : ℝ, cosh (m * a) / cosh (m * b) ≠ rv :=
  fun m hm => (hm ▸ c15_cosh_ratio_le_one m a b h).not_gt hr

/-- non-vacuity of `c15_cosh_no_solution_first_half`: T = 8, t = 2 (a = -2, b = -1) with a ratio below 1 -/
example : |(-1 : ℝ)| ≤ |(-2 : ℝ)| ∧ (0.9 : ℝ) < 1 := by norm_num

/-- **C15 (odd T, slice 2t+1 = T).**  There a = -b: the cosh ratio is 1 and the sinh ratio -1 for every mass - the
    equation does not determine a mass (any start value "solves" it when C(t) / C(t+1) is that number, none otherwise). -/
theorem c15_cosh_ratio_mid (m a : ℝ) : cosh (m * (-a)) / cosh (m * a) = 1 := by
  rw [mul_neg, cosh_neg, div_self (cosh_pos _).ne']

theorem c15_sinh_ratio_mid (m a : ℝ) (h : sinh (m * a) ≠ 0) : sinh (m * (-a)) / sinh (m * a) = -1 := by
  rw [mul_neg, sinh_neg, neg_div, div_self h]

/-! ### the sinh variant: the ratio stays on one side of its m -> 0 limit a / b -/

theorem sinh_gap_strictMono (a b : ℝ) (ha : 0 < a) (hab : a < b) :
    StrictMonoOn (fun m : ℝ => a * sinh (m * b) - b * sinh (m * a)) (Set.Ici 0) := by
  have hd : ∀ m : ℝ, HasDerivAt (fun m : ℝ => a * sinh (m * b) - b * sinh (m * a))
      (a * b * (cosh (m * b) - cosh (m * a))) m := fun m =>
    (((hasDerivAt_mul_const b).sinh.const_mul a).sub
      ((hasDerivAt_mul_const a).sinh.const_mul b)).congr_deriv (by ring)
  refine strictMonoOn_of_deriv_pos (convex_Ici 0) (fun m _ => (hd m).continuousAt.continuousWithinAt) fun m hm => ?_
  rw [interior_Ici, Set.mem_Ioi] at hm
  have hb := ha.trans hab
  rw [(hd m).deriv]
  refine mul_pos (mul_pos ha hb) (sub_pos.mpr ?_)
  rw [cosh_lt_cosh, abs_of_pos (mul_pos hm ha), abs_of_pos (mul_pos hm hb)]
  exact mul_lt_mul_of_pos_left hab hm

/-- cross-multiplied, so that it serves both halves of the lattice -/
theorem sinh_gap_pos {a b m : ℝ} (ha : 0 < a) (hab : a < b) (hm : 0 < m) :
    b * sinh (m * a) < a * sinh (m * b) := by
  have h := sinh_gap_strictMono a b ha hab (Set.mem_Ici.mpr le_rfl) (Set.mem_Ici.mpr hm.le) hm
  simp only [zero_mul, sinh_zero, mul_zero, sub_self] at h
  exact sub_pos.mp h

theorem sinh_ratio_bounds {a b m : ℝ} (ha : 0 < a) (hab : a < b) (hm : m ≠ 0) :
    sinh (m * a) / sinh (m * b) < a / b ∧ b / a < sinh (m * b) / sinh (m * a) := by
  -- both ratios are even in m
  wlog h : 0 < m generalizing m
  · have := this (neg_ne_zero.mpr hm) (neg_pos.mpr ((not_lt.mp h).lt_of_ne hm))
    simpa only [neg_mul, sinh_neg, neg_div_neg_eq] using this
  have hg := sinh_gap_pos ha hab h
  have hb := ha.trans hab
  rw [div_lt_div_iff₀ (sinh_pos_iff.mpr (mul_pos h hb)) hb,
    div_lt_div_iff₀ ha (sinh_pos_iff.mpr (mul_pos h ha))]
  exact ⟨by rwa [mul_comm], by rwa [mul_comm (sinh _)]⟩

/-- second half of the lattice (0 < a < b): the ratio stays below a / b -/
theorem c15_sinh_no_solution_second_half (a b rv : ℝ) (ha : 0 < a) (hab : a < b) (hr : a / b < rv) :
    ∀ m : ℝ, m ≠ 0 → sinh (m * a) / sinh (m * b) ≠ rv :=
  fun _ hm h => (h ▸ (sinh_ratio_bounds ha hab hm).1).not_gt hr

/-- first half (a < b < 0): with 0 < -b < -a the ratio is the inverse ratio of `sinh_ratio_bounds` and stays above a / b -/
theorem c15_sinh_no_solution_first_half (a b rv : ℝ) (hb : b < 0) (hab : a < b) (hr : rv < a / b) :
    ∀ m : ℝ, m ≠ 0 → sinh (m * a) / sinh (m * b) ≠ rv := by
  intro m hm h
  have := (sinh_ratio_bounds (neg_pos.mpr hb) (neg_lt_neg hab) hm).2
  simp only [mul_neg, sinh_neg, neg_div_neg_eq] at this
  exact (h ▸ this).not_gt hr

/-- **C15 (sinh variant, summary).**  In the second half of the lattice (0 < a < b) no real mass m ≠ 0 gives a ratio above
    a / b, in the first half (a < b < 0) none gives a ratio below a / b: the timeslice has to be undefined there. -/
theorem c15_sinh_no_solution (a b rv : ℝ) (h : (0 < a ∧ a < b ∧ a / b < rv) ∨ (b < 0 ∧ a < b ∧ rv < a / b)) :
    ∀ m : ℝ, m ≠ 0 → sinh (m * a) / sinh (m * b) ≠ rv := by
  rcases h with ⟨h1, h2, h3⟩ | ⟨h1, h2, h3⟩
  · exact c15_sinh_no_solution_second_half a b rv h1 h2 h3
  · exact c15_sinh_no_solution_first_half a b rv h1 h2 h3

end PV
