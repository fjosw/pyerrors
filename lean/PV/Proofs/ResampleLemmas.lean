/-
  `Model/Resample` over ℝ in Mathlib's own operations.  The jackknife theorems of C13 rest on two facts: exported with
  the sample mean as central value the samples are the leave-one-out means (`exportJack_mean`), and these sum to the
  sum of the chain (`jack_sum`).
-/
import PV.Proofs.RealScalar
import PV.Proofs.Basic
import PV.Model.Resample

namespace PV
open PV.RealS

theorem meanL_real (x : List ℝ) : meanL x = x.sum / x.length := by
  simp only [meanL, sum_eq, ofNatS_eq]

theorem exportJack_real (v : ℝ) (x : List ℝ) :
    exportJack v x = v :: x.map (fun xi => ((x.length : ℝ) * v - xi) / ((x.length : ℝ) - 1)) := by
  simp [exportJack]

theorem importJack_real (v : ℝ) (js : List ℝ) :
    importJack (v :: js) = (v, js.map fun j => js.sum - ((js.length : ℝ) - 1) * j) := by
  simp [importJack]

theorem exportBoot_real (v : ℝ) (x : List ℝ) (table : List (List Nat)) :
    exportBoot v x table = v :: table.map (fun row => (row.map (fun k => x.getD k 0)).sum / (x.length : ℝ)) := by
  simp [exportBoot]

theorem exportBoot_length (v : ℝ) (x : List ℝ) (table : List (List Nat)) :
    (exportBoot v x table).length = table.length + 1 := by
  rw [exportBoot_real, List.length_cons, List.length_map]

theorem exportBootChecked_eq (samples : Nat) (v : ℝ) (x : List ℝ) (table : List (List Nat)) :
    exportBootChecked samples v x table =
      if table.length = samples ∧ ∀ row ∈ table, row.length = x.length then some (exportBoot v x table) else none := by
  simp only [exportBootChecked, Bool.and_eq_true, beq_iff_eq, List.all_eq_true]

theorem length_ne_zero_sub_one (x : List ℝ) (hn : 2 ≤ x.length) :
    (x.length : ℝ) ≠ 0 ∧ (x.length : ℝ) - 1 ≠ 0 :=
  ⟨Nat.cast_ne_zero.2 (by omega), sub_ne_zero.2 (Nat.cast_ne_one.2 (by omega))⟩

theorem exportJack_mean (x : List ℝ) (h0 : (x.length : ℝ) ≠ 0) :
    exportJack (meanL x) x = meanL x :: x.map (fun xi => (x.sum - xi) / ((x.length : ℝ) - 1)) := by
  rw [exportJack_real, meanL_real, mul_div_cancel₀ _ h0]

theorem sum_map_sub_div (c d : ℝ) (x : List ℝ) :
    (x.map (fun xi => (c - xi) / d)).sum = ((x.length : ℝ) * c - x.sum) / d := by
  induction x with
  | nil => simp
  | cons a t ih =>
    simp only [List.map_cons, List.sum_cons, List.length_cons, ih]
    push_cast
    ring

theorem jack_sum (x : List ℝ) (h1 : (x.length : ℝ) - 1 ≠ 0) :
    (x.map fun xi => (x.sum - xi) / ((x.length : ℝ) - 1)).sum = x.sum := by
  rw [sum_map_sub_div, ← sub_one_mul, mul_div_cancel_left₀ _ h1]

theorem getD_zipWith_add_mul (a : ℝ) (x y : List ℝ) (hl : x.length = y.length) (k : Nat) :
    (List.zipWith (fun s t => s + a * t) x y).getD k 0 = x.getD k 0 + a * y.getD k 0 := by
  simpa only [mul_zero, add_zero] using getD_zipWith (f := fun s t => s + a * t) hl k 0 0

end PV
