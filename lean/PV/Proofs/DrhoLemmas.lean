/-
  Python slices as maps over `List.range`; with them the four slices of `_compute_drho` are the sum of the paper term
  for term (no law of `Scalar α` is used), and the tau_exp loop is a `find?` that carries the array of stored `δρ`.
-/
import Mathlib.Data.List.Basic
import PV.Proofs.Window

namespace PV

theorem sliceIndices_fwd (n s e : Nat) (he : e ≤ n) :
    Py.sliceIndices n (some (s : Int)) (some (e : Int)) 1
      = (List.range (e - s)).map (fun k => s + k) := by
  unfold Py.sliceIndices
  have h1 : ¬ ((s : Int) < 0) := by omega
  have h2 : ¬ ((e : Int) < 0) := by omega
  have h4 : ¬ ((e : Int) > (n : Int)) := by omega
  simp only [show (1 : Int) > 0 from by decide, if_true, h1, h2, h4, if_false]
  by_cases hle : e ≤ s
  · rw [if_pos (by split <;> omega), Nat.sub_eq_zero_of_le hle]
    rfl
  · have h3 : ¬ ((s : Int) > (n : Int)) := by omega
    rw [if_neg h3, if_neg (by omega), Int.ediv_one, show ((e : Int) - (s : Int) - 1 + 1).toNat = e - s by omega]
    apply List.map_congr_left
    intro k _
    omega

theorem sliceIndices_bwd (n s : Nat) (stop : Option Nat) (hs : s < n) :
    Py.sliceIndices n (some (s : Int)) (stop.map Nat.cast) (-1)
      = (List.range (match stop with | none => s + 1 | some e => s - e)).map (fun k => s - k) := by
  unfold Py.sliceIndices
  have h1 : ¬ ((s : Int) < 0) := by omega
  have h2 : ¬ ((s : Int) < -1) := by omega
  have h3 : ¬ ((s : Int) > (n : Int) - 1) := by omega
  simp only [show ¬ ((-1 : Int) > 0) from by decide, show ((-1 : Int) < 0) from by decide, if_true, if_false, h1, h2, h3,
    Int.neg_neg, Int.ediv_one]
  cases stop with
  | none =>
    simp only [Option.map_none]
    rw [if_neg (by omega), show ((s : Int) - -1 - 1 + 1).toNat = s + 1 by omega]
    exact List.map_congr_left fun k hk => by have := List.mem_range.mp hk; omega
  | some e =>
    have h5 : ¬ ((e : Int) < 0) := by omega
    have h6 : ¬ ((e : Int) < -1) := by omega
    simp only [Option.map_some, h5, h6, if_false]
    by_cases hle : s ≤ e
    · rw [if_pos (by split <;> omega), Nat.sub_eq_zero_of_le hle]
      rfl
    · rw [if_neg (by omega), if_neg (by omega), show ((s : Int) - (e : Int) - 1 + 1).toNat = s - e by omega]
      exact List.map_congr_left fun k hk => by have := List.mem_range.mp hk; omega

variable {α : Type}

theorem slice_eq_map (l : List α) (d : α) (start stop : Option Int) (step : Int) (n : Nat) (f : Nat → Nat)
    (hidx : Py.sliceIndices l.length start stop step = (List.range n).map f) (hlt : ∀ k, k < n → f k < l.length) :
    Py.slice l start stop step = (List.range n).map (fun k => l.getD (f k) d) := by
  rw [Py.slice, hidx, List.filterMap_map]
  refine List.filterMap_eq_map_iff_forall_eq_some.mpr fun k hk => ?_
  have hk := hlt k (List.mem_range.mp hk)
  rw [Function.comp_apply, List.getD_eq_getElem?_getD, List.getElem?_eq_getElem hk, Option.getD_some]

/-- the slice arguments `s'`, `e'` are the integer expressions the caller has, `s`, `e` their values and `n` the number
    of entries, each tied by an equation that `omega` or `rfl` closes at the call -/
theorem slice_fwd (l : List α) (d : α) {s' e' : Int} (s e n : Nat) (hs' : s' = s) (he' : e' = e)
    (he : e ≤ l.length) (hn : e - s = n) :
    Py.slice l (some s') (some e') = (List.range n).map (fun k => l.getD (s + k) d) := by
  subst hs' he' hn
  exact slice_eq_map l d _ _ _ _ _ (sliceIndices_fwd _ _ _ he) (by omega)

theorem slice_bwd (l : List α) (d : α) {s' : Int} {stop' : Option Int} (stop : Option Nat) (s n : Nat) (hs' : s' = s)
    (hs : s < l.length) (hn : n = match stop with | none => s + 1 | some e => s - e)
    (hstop : stop' = stop.map Nat.cast) :
    Py.slice l (some s') stop' (-1) = (List.range n).map (fun k => l.getD (s - k) d) := by
  subst hs' hstop hn
  exact slice_eq_map l d _ _ _ _ _ (sliceIndices_bwd _ _ stop hs) (fun k _ => by omega)

theorem range_map_append (f g : Nat → α) (m n : Nat) :
    (List.range m).map f ++ (List.range n).map g
      = (List.range (m + n)).map (fun k => if k < m then f k else g (k - m)) := by
  rw [List.range_add, List.map_append, List.map_map]
  congr 1
  · exact List.map_congr_left fun k hk => (if_pos (List.mem_range.mp hk)).symm
  · exact List.map_congr_left fun k _ => by
      rw [Function.comp_apply, if_neg (Nat.not_lt.mpr (Nat.le_add_right m k)), Nat.add_sub_cancel_left]

variable [Scalar α]

/-- `i < w_max` is not needed: beyond it both sides are empty sums.  `1 ≤ i` is: at `i = 0` the start `i-1 = -1` of
    the backward slice would count from the end. -/
theorem drhoSq_eq_spec (rho : List α) (wmax i : Nat) (eN : α) (hlen : rho.length = wmax) (hi : 1 ≤ i) :
    drhoSq rho wmax eN i = Spec.drhoSq (fun t => rho.getD t 0) wmax eN i := by
  -- a = rho[i+1 : w]
  have ha := slice_fwd rho 0 (s' := (i : Int) + 1) (e' := wmax) (i + 1) wmax (wmax - 1 - i) (by omega) rfl
    (by omega) (by omega)
  by_cases hiw : wmax ≤ i
  · simp [drhoSq, Spec.drhoSq, ha, show wmax - 1 - i = 0 by omega]
  -- c = rho[1 : w-i]
  have hc := slice_fwd rho 0 (s' := 1) (e' := (wmax : Int) - i) 1 (wmax - i) (wmax - 1 - i) rfl (by omega)
    (by omega) (by omega)
  -- b = rho[i-1 : stop : -1] ++ rho[1 : max 1 (w-2i)] walks down from `i-1` and, having reached 0, up again from 1
  have hb : Py.slice rho (some ((i : Int) - 1))
        (if (i : Int) - ((wmax : Int) - 1) / 2 ≤ 0 then none else some (2 * (i : Int) - (2 * (wmax : Int)) / 2)) (-1)
        ++ Py.slice rho (some 1) (some (max 1 ((wmax : Int) - 2 * (i : Int))))
      = (List.range (wmax - 1 - i)).map (fun k => rho.getD (if i ≥ k + 1 then i - (k + 1) else k + 1 - i) 0) := by
    clear ha hc
    by_cases h : 2 * i < wmax
    · rw [if_pos (by omega), slice_bwd rho 0 (s' := (i : Int) - 1) (stop' := none) none (i - 1) i (by omega) (by omega)
          (by dsimp only; omega) rfl,
        slice_fwd rho 0 (s' := 1) 1 (wmax - 2 * i) (wmax - 1 - i - i) rfl (by omega) (by omega) (by omega),
        range_map_append, show i + (wmax - 1 - i - i) = wmax - 1 - i by omega]
      apply List.map_congr_left
      intro k hk
      have := List.mem_range.mp hk
      by_cases hki : k < i
      · rw [if_pos hki, if_pos (by omega), show i - 1 - k = i - (k + 1) by omega]
      · rw [if_neg hki, if_neg (by omega), show 1 + (k - i) = k + 1 - i by omega]
    · rw [if_neg (by omega), slice_bwd rho 0 (s' := (i : Int) - 1) (stop' := some (2 * (i : Int) - (2 * (wmax : Int)) / 2))
          (some (2 * i - wmax)) (i - 1) (wmax - 1 - i) (by omega) (by omega) (by dsimp only; omega)
          (congrArg some (by omega)),
        slice_fwd rho 0 (s' := 1) 1 1 0 rfl (by omega) (by omega) rfl, List.range_zero, List.map_nil, List.append_nil]
      apply List.map_congr_left
      intro k hk
      have := List.mem_range.mp hk
      rw [if_pos (by omega), show i - 1 - k = i - (k + 1) by omega]
  simp only [drhoSq, Spec.drhoSq, ha, hb, hc, List.map_map, List.zipWith_map, List.zipWith_self, Function.comp_def,
    Nat.add_assoc, Nat.add_comm 1]

/-- the `e_drho` array with the entries `1 .. m` filled in -/
def drhoFilled (drhoAt : Nat → α) (wmax m : Nat) : List α :=
  (List.range wmax).map (fun j => if 1 ≤ j ∧ j ≤ m then drhoAt j else 0)

theorem drhoFilled_set (drhoAt : Nat → α) (wmax m : Nat) :
    (drhoFilled drhoAt wmax m).set (m + 1) (drhoAt (m + 1)) = drhoFilled drhoAt wmax (m + 1) := by
  unfold drhoFilled
  apply List.ext_getElem
  · simp
  · intro k h1 h2
    simp only [List.getElem_set, List.getElem_map, List.getElem_range]
    split
    · subst_vars
      exact (if_pos ⟨Nat.le_add_left 1 m, Nat.le_refl _⟩).symm
    · exact ite_congr (propext (by omega)) (fun _ => rfl) fun _ => rfl

theorem drhoFilled_init (drhoAt : Nat → α) (wmax : Nat) :
    (List.replicate wmax (0 : α)).set 1 (drhoAt 1) = drhoFilled drhoAt wmax 1 := by
  rw [← drhoFilled_set drhoAt wmax 0, drhoFilled, List.map_congr_left (g := fun _ => 0) fun j _ => if_neg (by omega),
    List.map_const', List.length_range]

theorem drhoFilled_getD (drhoAt : Nat → α) (wmax m n : Nat) (h1 : 1 ≤ n) (h2 : n ≤ m)
    (h3 : n < wmax) : (drhoFilled drhoAt wmax m).getD n 0 = drhoAt n := by
  unfold drhoFilled
  simp [List.getD, h3, h1, h2]

theorem drhoFilled_congr (f g : Nat → α) (wmax m : Nat) (h : ∀ i, 1 ≤ i → f i = g i) :
    drhoFilled f wmax m = drhoFilled g wmax m := by
  apply List.map_congr_left
  intro i _
  split
  · exact h i (by omega)
  · rfl

theorem texpLoop_bound {rho : List α} {nSigma : α} {drhoAt : Nat → α} {wmax fuel n : Nat} {drho : List α} {W : Nat}
    {d : List α} (h : texpLoop rho nSigma drhoAt wmax fuel n drho = some (W, d)) : n ≤ W ∧ W < n + fuel := by
  induction fuel generalizing n drho with
  | zero => cases h
  | succ f ih =>
    simp only [texpLoop] at h
    split at h
    · cases h; omega
    · have := ih h; omega

theorem find?_range'_one (p : Nat → Bool) (m : Nat) :
    (List.range' 1 m).find? p = ((List.range m).find? (fun k => p (k + 1))).map (· + 1) := by
  rw [List.range'_eq_map_range, List.find?_map]
  simp only [Function.comp_def, Nat.add_comm 1]

/-- the invariant of the tau_exp loop: iteration `n` is entered with the entries `1 .. n` of `e_drho` stored, so its
    test, which reads the stored `e_drho[n]`, is a test on `drhoAt n` -/
theorem texpLoop_eq_find (rho : List α) (nSigma : α) (drhoAt : Nat → α) (wmax fuel n : Nat)
    (h1 : 1 ≤ n) (h : n + fuel ≤ wmax) :
    texpLoop rho nSigma drhoAt wmax fuel n (drhoFilled drhoAt wmax n)
      = ((List.range' n fuel).find? (fun m => rho.getD m 0 - nSigma * drhoAt m < 0 ∨
            (m : Int) ≥ ((wmax / 2 : Nat) : Int) - 2)).map
          (fun W => (W, drhoFilled drhoAt wmax (W + 1))) := by
  induction fuel generalizing n with
  | zero => rfl
  | succ f ih =>
    rw [texpLoop, drhoFilled_set, drhoFilled_getD drhoAt wmax (n + 1) n h1 (by omega) (by omega),
      List.range'_succ, List.find?_cons, ih (n + 1) (by omega) (by omega)]
    by_cases hc : rho.getD n 0 - nSigma * drhoAt n < 0 ∨ (n : Int) ≥ ((wmax / 2 : Nat) : Int) - 2
    · rw [if_pos hc, decide_eq_true hc]
      rfl
    · rw [if_neg hc, decide_eq_false hc]

end PV
