/-
  The character sort of PV/Model/Einsum.lean is Mathlib's insertion sort; membership and sortedness follow.
-/
import PV.Model.Einsum
import Mathlib.Data.List.Sort

namespace PV.Einsum

theorem ins_eq (c : Char) : ∀ l, ins c l = l.orderedInsert (· ≤ ·) c
  | [] => rfl
  | d :: ds => by rw [ins, List.orderedInsert_cons, ins_eq c ds]

theorem sortC_eq : ∀ l, sortC l = l.insertionSort (· ≤ ·)
  | [] => rfl
  | c :: cs => by rw [sortC, ins_eq, sortC_eq cs, List.insertionSort_cons]

theorem mem_ins (x c : Char) (l : List Char) : x ∈ ins c l ↔ x = c ∨ x ∈ l :=
  ins_eq c l ▸ List.mem_orderedInsert _

theorem mem_sortC (x : Char) (l : List Char) : x ∈ sortC l ↔ x ∈ l :=
  sortC_eq l ▸ List.mem_insertionSort _

theorem pairwise_ins (c : Char) (l : List Char) (h : l.Pairwise (· ≤ ·)) : (ins c l).Pairwise (· ≤ ·) :=
  ins_eq c l ▸ h.orderedInsert c l

theorem pairwise_sortC (l : List Char) : (sortC l).Pairwise (· ≤ ·) :=
  sortC_eq l ▸ List.pairwise_insertionSort _ l

end PV.Einsum
