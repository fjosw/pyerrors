/-
  The placeholder mechanism of the dictionary export (PV/Model/Tree.lean).  A generated placeholder is recognised and
  decodes to its counter; the export and import functions are mutually recursive, and one predicate `RT` states the
  round trip of any such pair in the shape that goes through the mutual induction.
-/
import Std.Data.String.ToNat
import Mathlib.Data.List.DropRight
import PV.Model.Tree
import PV.Proofs.Basic

namespace PV.Tree

theorem afterPrefix_placeholder (reps : String) (n : Nat) :
    afterPrefix reps (placeholder reps n) = some (Nat.toDigits 10 n) := by
  unfold afterPrefix placeholder
  simp [String.toList_append, Nat.toList_repr]

theorem isPlaceholder_placeholder (reps : String) (n : Nat) : isPlaceholder reps (placeholder reps n) = true := by
  rw [isPlaceholder, afterPrefix_placeholder]
  cases h : Nat.toDigits 10 n with
  | nil => exact absurd h Nat.toDigits_ne_nil
  | cons c r => exact Nat.isDigit_of_mem_toDigits (b := 10) (n := n) (by decide) (by decide) (h ▸ List.mem_cons_self)

/-- `rstripWs` is `List.rdropWhile` by unfolding -/
theorem rstripWs_digits (l : List Char) (h : ∀ c ∈ l, c.isDigit = true) : rstripWs l = l := by
  refine List.rdropWhile_eq_self_iff.mpr fun hl hw => ?_
  have hd := h _ (List.getLast_mem hl)
  generalize l.getLast hl = c at hd hw
  simp only [Bool.or_eq_true, beq_iff_eq] at hw
  rcases hw with ((((rfl | rfl) | rfl) | rfl) | rfl) | rfl <;> exact absurd hd (by decide)

theorem phIndex_placeholder (reps : String) (n : Nat) : phIndex reps (placeholder reps n) = .ok n := by
  rw [phIndex, afterPrefix_placeholder]
  simp only
  rw [rstripWs_digits _ fun c => Nat.isDigit_of_mem_toDigits (b := 10) (by decide) (by decide),
    show String.ofList (Nat.toDigits 10 n) = Nat.repr n from rfl, Nat.toNat?_repr]

theorem in_placeholder {reps : String} {ol0 ol : List Slot} {x : Slot} {c : Nat} (h : ol0 ++ [x] <+: ol) :
    inVal reps ol (.str (placeholder reps ol0.length)) c = .ok (slotTree x, c + 1) := by
  obtain ⟨t, rfl⟩ := h
  simp [inVal, isPlaceholder_placeholder, phIndex_placeholder]

theorem slotTree_many {l : List T} {ids : List Nat} (h : obsIds l = some ids) : slotTree (.many ids) = .list l := by
  refine congrArg T.list ?_
  fun_induction obsIds l generalizing ids with
  | case1 => cases h; rfl
  | case2 i r ih =>
    obtain ⟨ids', h', rfl⟩ := Option.map_eq_some_iff.mp h
    rw [List.map_cons, ih h']
  | case3 => cases h

/-- the round trip of an export function `ex` and its import `inn` on `a`, in the shape that goes through the mutual
    induction: `ol0` is what was collected before, and the import runs against any extension of the exported list and
    from any counter (it finds a structure by the index in its placeholder; the counter only counts replacements) -/
def RT {A : Type} (ex : A → List Slot → Except Err (A × List Slot))
    (inn : List Slot → A → Nat → Except Err (A × Nat)) (a : A) (ol0 : List Slot) : Prop :=
  ∀ a' ol1, ex a ol0 = .ok (a', ol1) → ∃ new, ol1 = ol0 ++ new ∧
    ∀ ol c, ol1 <+: ol → inn ol a' c = .ok (a, c + new.length)

section
variable {A : Type} {ex : A → List Slot → Except Err (A × List Slot)}
  {inn : List Slot → A → Nat → Except Err (A × Nat)} {a : A} {ol0 : List Slot}

theorem RT.error {e : Err} (h : ex a ol0 = .error e) : RT ex inn a ol0 :=
  fun _ _ h' => nomatch h.symm.trans h'

theorem RT.ok {a' : A} (new : List Slot) (h : ex a ol0 = .ok (a', ol0 ++ new))
    (hin : ∀ ol c, ol0 ++ new <+: ol → inn ol a' c = .ok (a, c + new.length)) : RT ex inn a ol0 := by
  intro a'' ol1 h'
  cases h.symm.trans h'
  exact ⟨new, rfl, hin⟩

theorem RT.same (h : ex a ol0 = .ok (a, ol0)) (hin : ∀ ol c, inn ol a c = .ok (a, c)) : RT ex inn a ol0 :=
  RT.ok [] (by rw [h, List.append_nil]) (fun ol c _ => hin ol c)

theorem RT.wrap {B : Type} {ex' : B → List Slot → Except Err (B × List Slot)}
    {inn' : List Slot → B → Nat → Except Err (B × Nat)} {b b' : B} {a' : A} {ol1 : List Slot}
    (ih : RT ex' inn' b ol0) (hb : ex' b ol0 = .ok (b', ol1)) (h : ex a ol0 = .ok (a', ol1))
    (hin : ∀ {ol c c'}, inn' ol b' c = .ok (b, c') → inn ol a' c = .ok (a, c')) : RT ex inn a ol0 := by
  obtain ⟨new, rfl, hi⟩ := ih b' ol1 hb
  exact RT.ok new h (fun ol c hp => hin (hi ol c hp))

theorem RT.cons {B : Type} {exV : B → List Slot → Except Err (B × List Slot)}
    {inV : List Slot → B → Nat → Except Err (B × Nat)} {v v' : B} {rest rest' a' : A} {ol' ol'' : List Slot}
    (ihv : RT exV inV v ol0) (ihr : RT ex inn rest ol') (hv : exV v ol0 = .ok (v', ol'))
    (hr : ex rest ol' = .ok (rest', ol'')) (h : ex a ol0 = .ok (a', ol''))
    (hin : ∀ {ol c c' c''}, inV ol v' c = .ok (v, c') → inn ol rest' c' = .ok (rest, c'') → inn ol a' c = .ok (a, c'')) :
    RT ex inn a ol0 := by
  obtain ⟨n1, rfl, hin1⟩ := ihv v' ol' hv
  obtain ⟨n2, rfl, hin2⟩ := ihr rest' ol'' hr
  rw [List.append_assoc] at h
  refine RT.ok (n1 ++ n2) h (fun ol c hp => ?_)
  rw [← List.append_assoc] at hp
  rw [hin (hin1 ol c (List.IsPrefix.trans ⟨n2, rfl⟩ hp)) (hin2 ol _ hp), List.length_append, Nat.add_assoc]
end

theorem roundtrip_all (reps : String) :
    (∀ kv ol, RT (exDict reps) (inDict reps) kv ol) ∧ (∀ v ol, RT (exDictVal reps) (inVal reps) v ol) ∧
    (∀ l ol, RT (exList reps) (inList reps) l ol) ∧ (∀ v ol, RT (exListVal reps) (inVal reps) v ol) := by
  apply exDict.mutual_induct reps (RT (exDict reps) (inDict reps)) (RT (exDictVal reps) (inVal reps))
    (RT (exList reps) (inList reps)) (RT (exListVal reps) (inVal reps))
  -- the cases come in the order exDictVal (9), exListVal (8), exList (4), exDict (4), not in that of the motives
  · intro kv ol e he _
    exact RT.error (by rw [exDictVal, he])
  · intro kv ol rest' ol'' hk ih
    exact RT.wrap ih hk (by rw [exDictVal, hk]) (fun h => by simp only [inVal, h])
  · intro l ol ids hids
    exact RT.ok [.many ids] (by rw [exDictVal, hids])
      (fun ol' c hp => by rw [in_placeholder hp, slotTree_many hids]; rfl)
  · intro l ol hn e he _
    exact RT.error (by rw [exDictVal, hn, he])
  · intro l ol hn l' ol' hl ih
    exact RT.wrap ih hl (by rw [exDictVal, hn, hl]) (fun h => by simp only [inVal, h])
  · intro k i ol
    exact RT.ok [.one k i] (by rw [exDictVal]) (fun ol' c hp => by rw [in_placeholder hp]; rfl)
  · intro s ol hs
    exact RT.error (by rw [exDictVal, hs]; rfl)
  · intro s ol hs
    exact RT.same (by simp [exDictVal, hs]) (fun _ _ => by simp [inVal, hs])
  · intro j ol
    exact RT.same (by simp [exDictVal]) (fun _ _ => by simp [inVal])
  · intro l ol e he _
    exact RT.error (by rw [exListVal, he])
  · intro l ol l' ol' hl ih
    exact RT.wrap ih hl (by rw [exListVal, hl]) (fun h => by simp only [inVal, h])
  · intro kv ol e he _
    exact RT.error (by rw [exListVal, he])
  · intro kv ol rest' ol'' hk ih
    exact RT.wrap ih hk (by rw [exListVal, hk]) (fun h => by simp only [inVal, h])
  · intro k i ol
    exact RT.ok [.one k i] (by rw [exListVal]) (fun ol' c hp => by rw [in_placeholder hp]; rfl)
  · intro s ol hs
    exact RT.error (by rw [exListVal, hs]; rfl)
  · intro s ol hs
    exact RT.same (by simp [exListVal, hs]) (fun _ _ => by simp [inVal, hs])
  · intro j ol
    exact RT.same (by simp [exListVal]) (fun _ _ => by simp [inVal])
  · intro ol
    exact RT.same (by simp [exList]) (fun _ _ => by simp [inList])
  · intro e rest ol e1 he _
    exact RT.error (by rw [exList, he])
  · intro e rest ol v' ol' he e1 hr _ _
    exact RT.error (by simp only [exList, he, hr]; rfl)
  · intro e rest ol v' ol' he r' ol'' hr ih1 ih2
    exact RT.cons ih1 ih2 he hr (by simp only [exList, he, hr]; rfl) (fun h1 h2 => by simp only [inList, h1, h2])
  · intro ol
    exact RT.same (by simp [exDict]) (fun _ _ => by simp [inDict])
  · intro k v rest ol e1 he _
    exact RT.error (by rw [exDict, he])
  · intro k v rest ol v' ol' he e1 hr _ _
    exact RT.error (by simp only [exDict, he, hr]; rfl)
  · intro k v rest ol v' ol' he r' ol'' hr ih1 ih2
    exact RT.cons ih1 ih2 he hr (by simp only [exDict, he, hr]; rfl) (fun h1 h2 => by simp only [inDict, h1, h2])

/-! ### `exportDict` and `importDict` -/

theorem exDict_error_of_mem {reps : String} {d : List (String × T)} {k : String} {v : T} (hk : (k, v) ∈ d)
    (hv : ∀ ol, ∃ e, exDictVal reps v ol = .error e) : ∀ ol, ∃ e, exDict reps d ol = .error e := by
  induction d with
  | nil => cases hk
  | cons p rest ih =>
    intro ol
    obtain ⟨k', v'⟩ := p
    rcases List.mem_cons.mp hk with heq | hmem
    · cases heq
      obtain ⟨e, he⟩ := hv ol
      exact ⟨e, by simp [exDict, he]⟩
    · cases hv' : exDictVal reps v' ol with
      | error e => exact ⟨e, by simp [exDict, hv']⟩
      | ok r =>
        obtain ⟨e, he⟩ := ih hmem r.2
        exact ⟨e, by simp [exDict, hv', he]⟩

theorem exportDict_eq_ok {reps : String} {d : List (String × T)} {p : List (String × T) × List Slot} :
    exportDict reps d = .ok p ↔ isAlnum reps = true ∧ exDict reps d [] = .ok p := by
  simp only [exportDict, ite_error_eq_ok, Bool.not_eq_true', Bool.not_eq_false]

theorem importDict_exportDict {reps : String} {d nd : List (String × T)} {ol : List Slot}
    (h : exportDict reps d = .ok (nd, ol)) : importDict reps ol nd = if ol = [] then .error .noPlaceholder else .ok d := by
  obtain ⟨hal, h⟩ := exportDict_eq_ok.mp h
  obtain ⟨_, rfl, hin⟩ := (roundtrip_all reps).1 d [] nd ol h
  rw [importDict, hal, hin _ 0 (List.prefix_refl _)]
  cases ol <;> rfl

end PV.Tree
