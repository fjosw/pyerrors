/-
  The record readers of PV/Model/Bytes.lean (C17 / C18).  `RecordLoop` says what a loop does with a whole record in
  front of it, with an empty input, and with a cut record; from these three facts alone follow the round trip
  (`read_all`) and what is returned for a file cut at an arbitrary byte (`read_take`, `prefix_safe`).  The stream loop
  `readRecords` and the chunked loop `readChunks` are the two instances.
-/
import PV.Model.Bytes

namespace PV
open PV.Bytes

theorem bytes_recompose (u : Nat) (h : u < 4294967296) :
    u % 256 + 256 * (u / 256 % 256) + 65536 * (u / 65536 % 256) + 16777216 * (u / 16777216 % 256) = u := by
  omega

theorem le32_bytes (u : Nat) (h : u < 4294967296) :
    le32 [UInt8.ofNat (u % 256), UInt8.ofNat (u / 256 % 256), UInt8.ofNat (u / 65536 % 256),
        UInt8.ofNat (u / 16777216 % 256)]
      = some (if u ≥ 2147483648 then (u : Int) - 4294967296 else (u : Int)) := by
  simp only [le32, UInt8.toNat_ofNat', Nat.mod_mod, bytes_recompose u h]

theorem le32_enc32 (i : Int) (h1 : -2147483648 ≤ i) (h2 : i < 2147483648) : le32 (enc32 i) = some i := by
  rw [enc32, le32_bytes _ (by omega)]
  congr 1
  split <;> omega

theorem enc32_length (i : Int) : (enc32 i).length = 4 := rfl

/-- a record list as the measurement programs write it; `P` is the payload size fixed by the file header -/
def RecsOK (P : Nat) (rs : List Rec) : Prop :=
  ∀ r ∈ rs, r.payload.length = P ∧ -2147483648 ≤ r.cfg ∧ r.cfg < 2147483648

theorem RecsOK.mono {P : Nat} {rs rs' : List Rec} (h : RecsOK P rs) (hs : rs' ⊆ rs) : RecsOK P rs' :=
  fun x hx => h x (hs hx)

theorem encodeRecords_cons (r : Rec) (rs : List Rec) :
    encodeRecords (r :: rs) = (enc32 r.cfg ++ r.payload) ++ encodeRecords rs :=
  List.flatMap_cons

theorem encodeRecords_append (a b : List Rec) : encodeRecords (a ++ b) = encodeRecords a ++ encodeRecords b :=
  List.flatMap_append

theorem length_encodeRecords (P : Nat) (rs : List Rec) (h : RecsOK P rs) :
    (encodeRecords rs).length = rs.length * (4 + P) := by
  rw [encodeRecords, List.length_flatMap, List.map_congr_left (g := fun _ => 4 + P) fun r hr => by
    rw [List.length_append, enc32_length, (h r hr).1], List.map_const', List.sum_replicate_nat]

theorem take_encodeRecords (P : Nat) (rs : List Rec) (h : RecsOK P rs) (m j : Nat) (hm : m < rs.length)
    (hj : j < 4 + P) :
    (encodeRecords rs).take (m * (4 + P) + j)
      = encodeRecords (rs.take m) ++ (enc32 rs[m].cfg ++ rs[m].payload).take j := by
  have hA : (encodeRecords (rs.take m)).length = m * (4 + P) := by
    rw [length_encodeRecords P _ (h.mono (List.take_subset m rs)), List.length_take, Nat.min_eq_left (Nat.le_of_lt hm)]
  have hB : j ≤ (enc32 rs[m].cfg ++ rs[m].payload).length := by
    rw [List.length_append, enc32_length, (h _ (List.getElem_mem hm)).1]; omega
  have e : encodeRecords rs
      = encodeRecords (rs.take m) ++ ((enc32 rs[m].cfg ++ rs[m].payload) ++ encodeRecords (rs.drop (m + 1))) := by
    rw [← encodeRecords_cons, List.getElem_cons_drop, ← encodeRecords_append, List.take_append_drop]
  rw [e, ← hA, List.take_length_add_append, List.take_append_of_le_length hB]

/-- what the stream loop and the chunked loop have in common; `accept j` tells whether a record cut after `j` bytes ends
    the input silently or raises `err` -/
structure RecordLoop (P : Nat) (f : Nat → B → List Rec → Except RErr (List Rec))
    (accept : Nat → Bool) (err : Rec → RErr) : Prop where
  step : ∀ fuel r tail acc, RecsOK P [r] →
    f (fuel + 1) ((enc32 r.cfg ++ r.payload) ++ tail) acc = f fuel tail (r :: acc)
  nil : ∀ fuel acc, f fuel [] acc = .ok acc.reverse
  cut : ∀ fuel r j acc, RecsOK P [r] → 0 < j → j < 4 + P →
    f (fuel + 1) ((enc32 r.cfg ++ r.payload).take j) acc = if accept j then .ok acc.reverse else .error (err r)

namespace RecordLoop
variable {P : Nat} {f : Nat → B → List Rec → Except RErr (List Rec)} {accept : Nat → Bool} {err : Rec → RErr}

theorem append (L : RecordLoop P f accept err) (rs : List Rec) (h : RecsOK P rs) :
    ∀ (fuel : Nat) (tail : B) (acc : List Rec),
      f (rs.length + fuel) (encodeRecords rs ++ tail) acc = f fuel tail (rs.reverse ++ acc) := by
  induction rs with
  | nil => intro fuel tail acc; simp [encodeRecords]
  | cons r rs ih =>
    intro fuel tail acc
    rw [List.length_cons, Nat.add_right_comm, encodeRecords_cons, List.append_assoc,
      L.step _ r _ acc (h.mono (by simp)), ih (h.mono (List.subset_cons_self r rs))]
    simp

/-- C17 for either loop -/
theorem read_all (L : RecordLoop P f accept err) (rs : List Rec) (h : RecsOK P rs) (fuel : Nat)
    (hf : rs.length < fuel) : f fuel (encodeRecords rs) [] = .ok rs := by
  obtain ⟨g, rfl⟩ := Nat.exists_eq_add_of_le (Nat.le_of_lt hf)
  simpa [L.nil] using L.append rs h g [] []

theorem read_take (L : RecordLoop P f accept err) (rs : List Rec) (h : RecsOK P rs) (k fuel : Nat)
    (hf : rs.length < fuel) (hk : k < (encodeRecords rs).length) :
    ∃ hm : k / (4 + P) < rs.length, f fuel ((encodeRecords rs).take k) [] =
      if k % (4 + P) = 0 ∨ accept (k % (4 + P)) then .ok (rs.take (k / (4 + P)))
      else .error (err rs[k / (4 + P)]) := by
  rw [length_encodeRecords P rs h] at hk
  have hm : k / (4 + P) < rs.length := (Nat.div_lt_iff_lt_mul (by omega)).2 hk
  have hj : k % (4 + P) < 4 + P := Nat.mod_lt _ (by omega)
  refine ⟨hm, ?_⟩
  obtain ⟨g, rfl⟩ : ∃ g, fuel = (rs.take (k / (4 + P))).length + (g + 1) :=
    ⟨fuel - k / (4 + P) - 1, by rw [List.length_take]; omega⟩
  have e := take_encodeRecords P rs h _ _ hm hj
  rw [Nat.div_add_mod'] at e
  rw [e, L.append _ (h.mono (List.take_subset _ rs))]
  rcases Nat.eq_zero_or_pos (k % (4 + P)) with h0 | h0
  · simp [h0, L.nil]
  · rw [L.cut g _ _ _ (h.mono (by simp)) h0 hj]
    simp [Nat.ne_of_gt h0]

/-- C18 for either loop -/
theorem prefix_safe (L : RecordLoop P f accept err) (rs : List Rec) (h : RecsOK P rs) (k fuel : Nat)
    (hf : rs.length < fuel) :
    (∃ e, f fuel ((encodeRecords rs).take k) [] = .error e) ∨
    ((k % (4 + P) = 0 ∨ accept (k % (4 + P))) ∨ (encodeRecords rs).length ≤ k) ∧
      f fuel ((encodeRecords rs).take k) [] = .ok (rs.take (k / (4 + P))) := by
  rcases Nat.lt_or_ge k (encodeRecords rs).length with hk | hk
  · obtain ⟨_, e⟩ := L.read_take rs h k fuel hf hk
    rw [e]
    split
    · rename_i h0
      exact .inr ⟨.inl h0, rfl⟩
    · exact .inl ⟨_, rfl⟩
  · refine .inr ⟨.inr hk, ?_⟩
    rw [List.take_of_length_le hk, L.read_all rs h fuel hf]
    rw [length_encodeRecords P rs h] at hk
    rw [List.take_of_length_le ((Nat.le_div_iff_mul_le (by omega)).2 hk)]

end RecordLoop

theorem readRecords_short (P fuel : Nat) (t : B) (acc : List Rec) (ht : t.length < 4) :
    readRecords P fuel t acc = .ok acc.reverse := by
  cases fuel with
  | zero => rw [readRecords]
  | succ fuel =>
    rw [readRecords]
    simp only [List.length_take]
    rw [if_pos (by omega)]

/-- the stream loop stops silently on a cut inside the configuration number and raises on a cut inside the payload -/
theorem readRecords_loop (P : Nat) : RecordLoop P (readRecords P) (· < 4) (fun r => .shortPayload r.cfg) where
  step fuel r tail acc h := by
    obtain ⟨hp, h1, h2⟩ := h r (by simp)
    rw [List.append_assoc, readRecords]
    simp only [List.take_left' (enc32_length r.cfg), List.drop_left' (enc32_length r.cfg), List.take_left' hp,
      List.drop_left' hp, enc32_length, le32_enc32 _ h1 h2, hp]
    simp
  nil fuel acc := readRecords_short P fuel [] acc (by simp)
  cut fuel r j acc h h0 hj := by
    obtain ⟨hp, h1, h2⟩ := h r (by simp)
    split
    · rename_i h4
      exact readRecords_short _ _ _ _ (by rw [List.length_take]; simp at h4; omega)
    · rename_i h4
      simp only [decide_eq_true_eq, Nat.not_lt] at h4
      have e : (enc32 r.cfg ++ r.payload).take j = enc32 r.cfg ++ r.payload.take (j - 4) := by
        rw [List.take_append, List.take_of_length_le (by rw [enc32_length]; exact h4), enc32_length]
      have hl : ((r.payload.take (j - 4)).take P).length < P := by
        rw [List.length_take, List.length_take]; omega
      rw [e, readRecords]
      simp only [List.take_left' (enc32_length r.cfg), List.drop_left' (enc32_length r.cfg), enc32_length,
        le32_enc32 _ h1 h2]
      rw [if_neg (by omega), if_pos hl]

/-- the chunked loop raises on every cut inside a record -/
theorem readChunks_loop (P : Nat) : RecordLoop P (readChunks P) (fun _ => false) (fun _ => .shortPayload 0) where
  step fuel r tail acc h := by
    obtain ⟨hp, h1, h2⟩ := h r (by simp)
    have hlen : (enc32 r.cfg ++ r.payload).length = 4 + P := by
      rw [List.length_append, enc32_length, hp]
    rw [readChunks]
    simp only [List.take_left' hlen, List.drop_left' hlen, List.take_left' (enc32_length r.cfg),
      List.drop_left' (enc32_length r.cfg), hlen, le32_enc32 _ h1 h2]
    simp
  nil fuel acc := by cases fuel <;> simp [readChunks]
  cut fuel r j acc h h0 hj := by
    have hl : ((enc32 r.cfg ++ r.payload).take j).length = j := by
      rw [List.length_take, List.length_append, enc32_length, (h r (by simp)).1]; omega
    rw [readChunks]
    simp only [List.length_take, hl]
    rw [Nat.min_eq_right (by omega), if_neg (by omega), if_pos hj]
    rfl

end PV
