/-
  The `Except` and `Option` monads as the models use them (a raised Python exception is `Except.error`, a missing value
  `none`): when a guarded `do` block, a `mapM` or a checking `for` loop succeeds.  At the end, the facts about entry
  `i` of a mapped, zipped or tabulated list that several modules use.
-/
import Mathlib.Data.List.Forall2

namespace PV

variable {ε ε' β γ δ : Type}

theorem Except.bind_eq_ok {x : Except ε β} {f : β → Except ε γ} {r : γ} :
    (x >>= f) = .ok r ↔ ∃ a, x = .ok a ∧ f a = .ok r := by
  cases x with
  | error e => exact iff_of_false nofun nofun
  | ok a => exact ⟨fun h => ⟨a, rfl, h⟩, fun ⟨_, h, h'⟩ => by cases h; exact h'⟩

theorem Except.mapError_eq_ok {f : ε → ε'} {x : Except ε β} {b : β} : x.mapError f = .ok b ↔ x = .ok b := by
  cases x with
  | error e => exact iff_of_false nofun nofun
  | ok a => exact ⟨fun h => by cases h; rfl, fun h => by cases h; rfl⟩

theorem exists_error_of_not_ok {ε β : Type} {x : Except ε β} (h : ∀ b, x ≠ .ok b) : ∃ e, x = .error e := by
  cases x with
  | error e => exact ⟨e, rfl⟩
  | ok b => exact absurd rfl (h b)

theorem ite_error_eq_ok {α : Type} {c : Prop} [Decidable c] {e : ε} {x : Except ε α} {y : α} :
    (if c then .error e else x) = .ok y ↔ ¬ c ∧ x = .ok y := by
  split <;> simp [*]

theorem ite_error_fails {α : Type} {c : Prop} [Decidable c] {e0 : ε} {x : α} :
    (∃ e, (if c then Except.error e0 else .ok x) = .error e) ↔ c := by
  split <;> simp [*]

theorem mapM_congr_except (l : List β) (f g : β → Except ε γ) (h : ∀ x ∈ l, f x = g x) :
    l.mapM f = l.mapM g := by
  induction l with
  | nil => rfl
  | cons x xs ih =>
    simp only [List.mapM_cons]
    rw [h x (by simp), ih (fun y hy => h y (by simp [hy]))]

/-- a Python `for` loop whose body only raises or goes on, as the `do` notation elaborates it -/
theorem forIn_checks_eq_ok {l : List β} {f : β → PUnit.{1} → Except ε (ForInStep PUnit.{1})} {P : β → Prop}
    (hf : ∀ x s, f x ⟨⟩ = .ok s ↔ P x ∧ s = .yield ⟨⟩) {u : PUnit.{1}} :
    forIn l PUnit.unit f = .ok u ↔ ∀ x ∈ l, P x := by
  induction l with
  | nil => exact iff_of_true rfl nofun
  | cons a as ih =>
    rw [List.forIn_cons, List.forall_mem_cons, ← ih]
    cases h : f a ⟨⟩ with
    | error e => exact iff_of_false nofun fun h' => nomatch h.symm.trans ((hf a _).mpr ⟨h'.1, rfl⟩)
    | ok s =>
      obtain ⟨hp, rfl⟩ := (hf a s).mp h
      exact (and_iff_right hp).symm

/-! ### `mapM` into `Option` -/

theorem mapM_eq_some_iff (f : γ → Option δ) (l : List γ) (out : List δ) :
    l.mapM f = some out ↔ l.map f = out.map some := by
  induction l generalizing out with
  | nil => cases out <;> simp
  | cons x xs ih =>
    cases out with
    | nil => simp [List.mapM_cons, Option.bind_eq_some_iff]
    | cons y ys =>
      simp only [List.mapM_cons, bind, pure, Option.bind_eq_some_iff, ih, Option.some.injEq, List.cons.injEq,
        List.map_cons]
      constructor
      · rintro ⟨_, h1, _, h2, rfl, rfl⟩; exact ⟨h1, h2⟩
      · rintro ⟨h1, h2⟩; exact ⟨_, h1, _, h2, rfl, rfl⟩

theorem mapM_eq_some_forall₂ {f : γ → Option δ} {l : List γ} {out : List δ} :
    l.mapM f = some out ↔ List.Forall₂ (fun a b => f a = some b) l out := by
  rw [mapM_eq_some_iff, ← List.forall₂_eq_eq_eq, List.forall₂_map_left_iff, List.forall₂_map_right_iff]

theorem mapM_getElem {f : γ → Option δ} {l : List γ} {out : List δ} (h : l.mapM f = some out)
    {k : Nat} (hk : k < l.length) : ∃ v, out[k]? = some v ∧ f l[k] = some v := by
  have := congrArg (·[k]?) ((mapM_eq_some_iff f l out).1 h)
  simp only [List.getElem?_map, List.getElem?_eq_getElem hk, Option.map_some] at this
  cases hv : out[k]? with
  | none => simp [hv] at this
  | some v => exact ⟨v, rfl, by simpa [hv] using this⟩

theorem mapM_eq_none_iff (f : γ → Option δ) (l : List γ) :
    l.mapM f = none ↔ ∃ x ∈ l, f x = none := by
  induction l with
  | nil => simp
  | cons x xs ih =>
    cases hx : f x with
    | none => simp [List.mapM_cons, hx]
    | some y => cases h : xs.mapM f <;> simp [List.mapM_cons, hx, h, ← ih]

/-! ### `List.mapM` in `Except` -/

theorem mapM_eq_ok {f : β → Except ε γ} {l : List β} {rs : List γ} :
    l.mapM f = .ok rs ↔ List.Forall₂ (fun a r => f a = .ok r) l rs := by
  induction l generalizing rs with
  | nil =>
    rw [List.mapM_nil, List.forall₂_nil_left_iff]
    exact ⟨fun h => by cases h; rfl, fun h => h ▸ rfl⟩
  | cons a t ih =>
    rw [List.mapM_cons, List.forall₂_cons_left_iff]
    simp only [Except.bind_eq_ok, ih]
    exact ⟨fun ⟨b, hb, bs, hbs, h⟩ => ⟨b, bs, hb, hbs, by cases h; rfl⟩,
      fun ⟨b, bs, hb, hbs, h⟩ => ⟨b, hb, bs, hbs, h ▸ rfl⟩⟩

theorem mapM_eq_ok_map {f : β → Except ε γ} {g : β → γ} {l : List β} (h : ∀ x ∈ l, f x = .ok (g x)) :
    l.mapM f = .ok (l.map g) :=
  mapM_eq_ok.mpr (List.forall₂_map_right_iff.mpr (List.forall₂_same.mpr h))

section forall₂
variable {R : β → γ → Prop} {l₁ : List β} {l₂ : List γ}

theorem _root_.List.Forall₂.exists_of_mem_left (h : List.Forall₂ R l₁ l₂) {a : β} (ha : a ∈ l₁) : ∃ b ∈ l₂, R a b := by
  obtain ⟨i, hi, rfl⟩ := List.mem_iff_getElem.mp ha
  exact ⟨l₂[i]'(h.length_eq ▸ hi), List.getElem_mem _, h.get hi _⟩

theorem _root_.List.Forall₂.exists_of_mem_right (h : List.Forall₂ R l₁ l₂) {b : γ} (hb : b ∈ l₂) : ∃ a ∈ l₁, R a b :=
  let ⟨a, ha, hr⟩ := List.Forall₂.exists_of_mem_left (R := flip R) h.flip hb
  ⟨a, ha, hr⟩

theorem _root_.List.Forall₂.map_eq (h : List.Forall₂ R l₁ l₂) {f : β → δ} {g : γ → δ} (hfg : ∀ a b, R a b → f a = g b) :
    l₁.map f = l₂.map g := by
  induction h with
  | nil => rfl
  | cons hab _ ih => rw [List.map_cons, List.map_cons, hfg _ _ hab, ih]

end forall₂

theorem mapM_eq_ok_exists_map [Inhabited γ] {f : β → Except ε γ} {l : List β} {rs : List γ}
    (h : l.mapM f = .ok rs) : ∃ g : β → γ, (∀ x ∈ l, f x = .ok (g x)) ∧ rs = l.map g := by
  have hF := mapM_eq_ok.mp h
  let g : β → γ := fun x => match f x with | .ok y => y | .error _ => default
  have hg : ∀ a r, f a = .ok r → g a = r := fun a r har => by simp only [g, har]
  refine ⟨g, fun x hx => ?_, by simpa using (hF.map_eq (f := g) (g := id) hg).symm⟩
  obtain ⟨r, _, hr⟩ := hF.exists_of_mem_left hx
  rw [hg x r hr, hr]

/-! ### entry `i` of a mapped, zipped or tabulated list -/

theorem map_of_map_eq {κ : Type} {key : β → κ} {l l' : List β} (h : l.map key = l'.map key) (f : κ → γ) :
    l.map (fun x => f (key x)) = l'.map (fun x => f (key x)) := by
  simpa only [List.map_map, Function.comp_def] using congrArg (List.map f) h

theorem zip_map_eq {f : β → δ} {g : γ → δ} {l₁ : List β} {l₂ : List γ} (h : l₁.map f = l₂.map g)
    {p : β × γ} (hp : p ∈ List.zip l₁ l₂) : f p.1 = g p.2 :=
  List.forall₂_zip (R := fun a b => f a = g b)
    (List.forall₂_map_left_iff.mp (List.forall₂_map_right_iff.mp (List.forall₂_eq_eq_eq ▸ h))) hp

theorem getD_map_of_lt (f : β → γ) (d : γ) {l : List β} {i : Nat} (hi : i < l.length) :
    (l.map f).getD i d = f l[i] := by
  rw [← List.getElem_eq_getD (h := (List.length_map f).symm ▸ hi), List.getElem_map]

theorem getD_map_getD (f : β → γ) {l : List β} {i : Nat} (hi : i < l.length) (d : γ) (d' : β) :
    (l.map f).getD i d = f (l.getD i d') :=
  (getD_map_of_lt f d hi).trans (congrArg f (List.getElem_eq_getD d'))

theorem getD_map_range (f : Nat → γ) (d : γ) {n t : Nat} (ht : t < n) : ((List.range n).map f).getD t d = f t := by
  rw [getD_map_of_lt f d (List.length_range.symm ▸ ht), List.getElem_range]

theorem map_getD_range (l : List β) (d : β) : (List.range l.length).map (l.getD · d) = l :=
  List.ext_getElem (by simp) fun i _ h => by rw [List.getElem_map, List.getElem_range, ← List.getElem_eq_getD]

theorem getD_ofFn {n : Nat} (f : Fin n → β) (k : Fin n) (d : β) : (List.ofFn f).getD k d = f k := by
  rw [List.getD_eq_getElem?_getD, List.getElem?_ofFn, dif_pos k.2]; rfl

theorem forall₂_range {R : Nat → β → Prop} {l : List β} (h : ∀ i (hi : i < l.length), R i l[i]) :
    List.Forall₂ R (List.range l.length) l :=
  List.forall₂_of_length_eq_of_get List.length_range fun i _ h₂ => by simpa using h i h₂

theorem getD_zipWith {f : β → γ → δ} {x : List β} {y : List γ} (h : x.length = y.length) (k : Nat) (dx : β) (dy : γ) :
    (List.zipWith f x y).getD k (f dx dy) = f (x.getD k dx) (y.getD k dy) := by
  simp only [List.getD_eq_getElem?_getD, List.getElem?_zipWith]
  rcases Nat.lt_or_ge k x.length with hk | hk
  · rw [List.getElem?_eq_getElem hk, List.getElem?_eq_getElem (h ▸ hk)]
    rfl
  · rw [List.getElem?_eq_none hk, List.getElem?_eq_none (h ▸ hk)]
    rfl

end PV
