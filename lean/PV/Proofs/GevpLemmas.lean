/-
  About PV/Model/Gevp.lean: every member of `perms N` is a permutation of `range N` and `applyPerm` with one re-orders;
  the search loop of `_sort_vectors` returns a candidate or what it held before; `hankelPy` on the two overlapping slices
  of the pencil method has `y[i + j]` at `(i, j)`.
-/
import PV.Model.Gevp
import PV.Proofs.RealScalar
import PV.Proofs.Basic

namespace PV

theorem permsAux_perm : ∀ (n : Nat) (l p : List Nat), l.length = n → l.Nodup → p ∈ permsAux n l → p.Perm l
  | 0, l, p, hl, _, hp => by
    obtain rfl := List.eq_nil_of_length_eq_zero hl
    exact List.mem_singleton.mp hp ▸ .refl _
  | n + 1, l, p, hl, hnd, hp => by
    simp only [permsAux, List.mem_flatMap, List.mem_map] at hp
    obtain ⟨x, hx, q, hq, rfl⟩ := hp
    have hlen : (l.erase x).length = n := by
      rw [List.length_erase_of_mem hx]; omega
    exact ((permsAux_perm n (l.erase x) q hlen (hnd.erase x) hq).cons x).trans (List.perm_cons_erase hx).symm

theorem perms_perm {N : Nat} {p : List Nat} (hp : p ∈ perms N) : p.Perm (List.range N) :=
  permsAux_perm N (List.range N) p List.length_range List.nodup_range hp

theorem perms_nodup {N : Nat} {p : List Nat} (hp : p ∈ perms N) : p.Nodup :=
  (perms_perm hp).nodup_iff.mpr List.nodup_range

theorem perms_length {N : Nat} {p : List Nat} (hp : p ∈ perms N) : p.length = N :=
  (perms_perm hp).length_eq.trans List.length_range

theorem applyPerm_perm {β : Type} (vs : List β) (p : List Nat) (hp : p.Perm (List.range vs.length)) :
    (applyPerm vs p).Perm (vs.map some) := by
  have hnd : p.Nodup := hp.nodup_iff.mpr List.nodup_range
  have hlen : p.length = vs.length := hp.length_eq.trans List.length_range
  rw [applyPerm, hlen]
  -- over `range N` or over `p` (a permutation of it) the multiset of images is the same, and `p[i]` sits at index `i`
  refine (hp.map _).symm.trans (.of_eq (List.ext_getElem (by simp [hlen]) fun i _ hi => ?_))
  rw [List.length_map] at hi
  simp [hnd.idxOf_getElem, hi]

variable {α : Type} [Scalar α]

theorem foldl_best_eq_some {score : List Nat → α} {ps : List (List Nat)} {st : α × Option (List Nat)} {bp : List Nat}
    (h : (ps.foldl (fun (st : α × Option (List Nat)) p => if st.1 < score p then (score p, some p) else st) st).2 = some bp) :
    st.2 = some bp ∨ bp ∈ ps := by
  induction ps generalizing st with
  | nil => exact .inl h
  | cons q qs ih =>
    rcases ih h with h1 | h1
    · beta_reduce at h1
      split at h1
      · exact .inr (Option.some.inj h1 ▸ List.mem_cons_self)
      · exact .inl h1
    · exact .inr (List.mem_cons_of_mem q h1)

theorem bestPerm_some_mem {score : List Nat → α} {ps : List (List Nat)} {prev : Option (List Nat)} {bp : List Nat}
    (hprev : ∀ q, prev = some q → q ∈ ps) (h : bestPerm score ps prev = some bp) : bp ∈ ps :=
  (foldl_best_eq_some h).elim (hprev bp) id

theorem foldl_best_of_not_lt (score : List Nat → α) (ps : List (List Nat)) (st : α × Option (List Nat))
    (h : ∀ p ∈ ps, ¬ st.1 < score p) :
    ps.foldl (fun (st : α × Option (List Nat)) p => if st.1 < score p then (score p, some p) else st) st = st := by
  induction ps with
  | nil => rfl
  | cons q qs ih =>
    rw [List.foldl_cons, if_neg (h q List.mem_cons_self)]
    exact ih fun p hp => h p (List.mem_cons_of_mem _ hp)

/-- relation between an input slice and the slice `_sort_vectors` returns for it -/
def SliceRel (a b : Option (List (List α))) : Prop :=
  match a, b with
  | none, none => True
  | some v, some w => w.Perm v
  | _, _ => False

theorem hankelPy_length (c r : List α) : (hankelPy c r).length = c.length := by
  simp only [hankelPy, List.length_map, List.length_range]

theorem hankelPy_getD (c r : List α) (i j : Nat) (hi : i < c.length) (hj : j < r.length) :
    ((hankelPy c r).getD i []).getD j 0
      = if i + j < c.length then c.getD (i + j) 0 else r.getD (i + j + 1 - c.length) 0 := by
  rw [hankelPy, getD_map_range _ _ hi, getD_map_range _ _ hj]

/-- `scipy.linalg.hankel(y[:k], y[k-1:])`: the two arguments overlap in `y[k-1]`, so entry `(i, j)` is `y[i + j]`
    on either side of the seam. -/
theorem hankelPy_take_drop (y : List α) (k i j : Nat) (hk : 0 < k) (hky : k ≤ y.length) (hi : i < k)
    (hj : j < y.length - (k - 1)) :
    ((hankelPy (y.take k) (y.drop (k - 1))).getD i []).getD j 0 = y.getD (i + j) 0 := by
  have hc : (y.take k).length = k := List.length_take_of_le hky
  rw [hankelPy_getD _ _ i j (hc.symm ▸ hi) (by rwa [List.length_drop]), hc]
  simp only [List.getD_eq_getElem?_getD, List.getElem?_drop]
  split
  · rw [List.getElem?_take_of_lt ‹_›]
  · congr 2; omega

end PV
