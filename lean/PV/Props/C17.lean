/-
  Property C17 - file readers return exactly the stored numbers at the right configurations: the record structure of
  the binary formats, the configuration bookkeeping, `sort_names`, the fit window of `fit_t0`, replica files listed in
  any order.
-/
import PV.Proofs.BytesLemmas
import PV.Proofs.ReaderLemmas

namespace PV
open PV.Bytes

/-- little-endian 32-bit integers round-trip -/
theorem c17_le32_enc32 (i : Int) (h1 : -2147483648 ≤ i) (h2 : i < 2147483648) : le32 (enc32 i) = some i :=
  le32_enc32 i h1 h2

/-- C17 (stream readers): reading back what was written returns exactly the records -/
theorem c17_decode_encode (P : Nat) (rs : List Rec) (h : RecsOK P rs) (fuel : Nat) (hf : rs.length < fuel) :
    readRecords P fuel (encodeRecords rs) [] = .ok rs :=
  (readRecords_loop P).read_all rs h fuel hf

/-- C17 (chunked reader of `read_ms5_xsf`): the same round trip -/
theorem c17_decode_encode_chunks (P : Nat) (rs : List Rec) (h : RecsOK P rs) (fuel : Nat) (hf : rs.length < fuel) :
    readChunks P fuel (encodeRecords rs) [] = .ok rs :=
  (readChunks_loop P).read_all rs h fuel hf

/-! ### configuration bookkeeping shared by the readers -/

/-- **C17 (selection keeps numbers attached to their configurations).** -/
theorem c17_select_aligned {β : Type} (cl : List Int) (data : List β) (rstart rstop : Option Int) (rstep : Nat)
    (a : List Int) (b : List β) (h : select cl data rstart rstop rstep = some (a, b)) :
    (a.zip b).Sublist (cl.zip data) := by
  unfold select at h
  split at h
  · cases h
    rw [← pick_zip]
    exact pick_sublist _ _ _ _
  · cases h

/-- **C17 (the requested range and stride).** -/
theorem c17_pick_entry {β : Type} (i0 i1 step : Nat) (l : List β) (j : Nat) :
    (pick i0 i1 step l)[j]? = if i0 + j * (max step 1) ≤ i1 then l[i0 + j * (max step 1)]? else none := by
  unfold pick
  rw [everyNth_getElem? (max step 1) _ 0 0 j (by omega) (Nat.dvd_zero _), List.getElem?_drop, List.getElem?_take]
  simp only [Nat.zero_add, Nat.lt_add_one_iff]

/-- **C17 (renumbering).**  For stored trajectory numbers `s, s+d, s+2d, …` (at least two, `d > 0`) the k-th
    record is attached to configuration `q + k` with `q = s // d`, or `1 + k` when thermalisation is assumed
    and `q > 1`: consecutive numbers, in file order, with the documented offset. -/
theorem c17_renumber_equispaced (s d : Int) (n : Nat) (hn : 2 ≤ n) (hd : 0 < d) (thermal : Bool) :
    renumber ((List.range n).map (fun (k : Nat) => s + (k : Int) * d)) thermal
      = some ((List.range n).map (fun (k : Nat) =>
          (if thermal && decide (Int.fdiv s d > 1) then 1 else Int.fdiv s d) + (k : Int))) := by
  obtain ⟨m, rfl⟩ : ∃ m, n = m + 2 := ⟨n - 2, by omega⟩
  have hdiff : s + ((m + 1 : Nat) : Int) * d - (s + (m : Int) * d) = d := by push_cast; ring
  rw [renumber_eq thermal (c0 := s) (prev := s + (m : Int) * d) (last := s + ((m + 1 : Nat) : Int) * d)
    (by simp [List.range_succ_eq_map]) (by simp only [List.range_succ, List.map_append, List.append_assoc]; rfl)
    (by rw [hdiff]; exact hd.ne'), hdiff, List.map_map]
  congr 1
  apply List.map_congr_left
  intro k _
  simp only [Function.comp, Int.add_mul_fdiv_right s _ hd.ne']
  split <;> ring

open PV.Names PV.SortL in
/-- **C17 (`sort_names` only re-orders).** -/
theorem c17_sort_names_perm (ll r : List String) (h : sortNames ll = .ok r) : r.Perm ll := by
  unfold sortNames at h
  split_ifs at h
  · cases h; rfl
  · cases h; exact (stage2_perm _).trans (stage1_perm _)
  · unfold fallback at h
    split at h
    · cases h; rfl
    · split at h
      · cases h
      · split at h
        · cases h
        · cases h; exact sortByKey_perm _ _

open PV.Names PV.SortL in
/-- **C17 (`sort_names` orders by replica number, then by id, numerically).**  When every one of at least two names
    carries both numbers the result is in lexicographic order of (number after `r`, number after `id`) as
    integers - `r2` before `r10`. -/
theorem c17_sort_names_lex (ll : List String) (hlen : 1 < ll.length)
    (hid : ∀ s ∈ ll, (idKey s).isSome = true) (hr : ∀ s ∈ ll, (rKey s).isSome = true) :
    ∃ r, sortNames ll = .ok r ∧
      r.Pairwise (Lex (fun s => (rKey s).getD 0) (fun s => (idKey s).getD 0)) := by
  have hidb : (ll.all fun s => (idKey s).isSome) = true := List.all_eq_true.mpr hid
  have hrb : ((stage1 ll).all fun s => (rKey s).isSome) = true :=
    List.all_eq_true.mpr fun s hs => hr s ((stage1_perm ll).subset hs)
  refine ⟨stage2 (stage1 ll), by simp [sortNames, hlen.not_ge, hidb], ?_⟩
  rw [stage2, if_pos hrb, stage1, if_pos hidb]
  exact sortByKey_lex _ _ _ (sortByKey_sorted _ ll)

open PV.Names PV.SortL in
/-- **C17 (`sort_names` does not depend on the directory order).**  Under the hypotheses of
    `c17_sort_names_lex`, if the (r, id) pairs of the names are pairwise distinct, any two listings of the same names are
    sorted to the same list. -/
theorem c17_sort_names_invariant (ll ll' : List String) (hp : ll'.Perm ll) (hlen : 1 < ll.length)
    (hid : ∀ s ∈ ll, (idKey s).isSome = true) (hr : ∀ s ∈ ll, (rKey s).isSome = true)
    (hinj : ∀ x ∈ ll, ∀ y ∈ ll, (rKey x).getD 0 = (rKey y).getD 0 → (idKey x).getD 0 = (idKey y).getD 0 → x = y) :
    sortNames ll' = sortNames ll := by
  obtain ⟨r, hr1, hr2⟩ := c17_sort_names_lex ll hlen hid hr
  obtain ⟨r', hr1', hr2'⟩ := c17_sort_names_lex ll' (hp.length_eq ▸ hlen)
    (fun s hs => hid s (hp.subset hs)) (fun s hs => hr s (hp.subset hs))
  have p := c17_sort_names_perm ll r hr1
  have p' := (c17_sort_names_perm ll' r' hr1').trans hp
  rw [hr1, hr1']
  congr 1
  refine (p'.trans p.symm).eq_of_pairwise (fun x y hx hy hxy hyx => ?_) hr2' hr2
  obtain ⟨h2, h1⟩ := hxy.antisymm hyx
  exact hinj x (p'.subset hx) y (p.subset hy) h2 h1

/-! ### `fit_t0`: which flow times enter the straight-line fit (PV/Model/FlowWindow.lean) -/

section flow
open PV.Flow

/-- **C17 (fit window of `fit_t0`).**  For a zero crossing at any position `zc` of the flow times and any `fit_range`, the
    points handed to the straight-line fit are exactly the stored flow times with index in
    `[zc - fit_range, zc + fit_range)`, cut off at the first and at the last flow time - a contiguous stretch, in file order. -/
theorem c17_fit_window {α : Type} (l : List α) (zc fr : Nat) (hz : zc ≤ l.length) :
    pySlice l (max ((zc : Int) - fr) 0) ((zc : Int) + fr) = (l.drop (zc - fr)).take (min (zc + fr) l.length - (zc - fr)) := by
  rw [show max ((zc : Int) - fr) 0 = ((zc - fr : Nat) : Int) by omega, ← Nat.cast_add, pySlice_nonneg,
    Nat.min_eq_left ((Nat.sub_le zc fr).trans hz)]

/-- **C17 (the window brackets the root).**  Whenever the crossing lies inside the data (1 ≤ zc < n) and `fit_range ≥ 1`, the
    last non-positive point `l[zc-1]` and the first positive point `l[zc]` are both in the window. -/
theorem c17_fit_window_brackets {α : Type} (l : List α) (zc fr : Nat) (h1 : 1 ≤ zc) (h2 : zc < l.length) (hf : 1 ≤ fr) :
    l[zc - 1]'(by omega) ∈ pySlice l (max ((zc : Int) - fr) 0) ((zc : Int) + fr) ∧
    l[zc]'h2 ∈ pySlice l (max ((zc : Int) - fr) 0) ((zc : Int) + fr) := by
  rw [c17_fit_window l zc fr h2.le]
  exact ⟨getElem_mem_drop_take l _ _ _ _ (by omega) (by omega), getElem_mem_drop_take l _ _ _ _ (by omega) (by omega)⟩

/-- the defect repaired in /repo 1964c79, as a statement about Python's slice: with 8 flow times, the crossing at
    index 2 and `fit_range = 5` the unclipped start -3 is read from the end and the fit gets the points 5 and 6, which do not
    bracket the root; the clipped window gets the points 0..6 -/
theorem c17_unclipped_window_witness :
    fitWindowUnclipped [0, 1, 2, 3, 4, 5, 6, 7] [false, false, true, true, true, true, true, true] 5 = some [5, 6] ∧
    fitWindow [0, 1, 2, 3, 4, 5, 6, 7] [false, false, true, true, true, true, true, true] 5 = some [0, 1, 2, 3, 4, 5, 6] := by
  decide

/-- a data set that is positive from the first flow time on (or nowhere) is refused ('Desired flow time not in data') -/
theorem c17_fit_window_refused {α : Type} (l : List α) (mask : List Bool) (fr : Nat)
    (h : mask.all (fun b => !b) = true ∨ mask.head? = some true) : fitWindow l mask fr = none := by
  have : argmaxTrue mask = 0 := by
    unfold argmaxTrue
    rcases h with h | h
    · rw [List.findIdx_eq_length.mpr (by simpa using h), if_neg (lt_irrefl _)]
    · obtain ⟨t, rfl⟩ := List.head?_eq_some_iff.mp h
      rw [List.findIdx_cons]
      exact ite_self 0
  rw [fitWindow, this]
  rfl

end flow

open PV.Names

/-- **C17 (explicit `files=` lists in any order).**  For every set of replica files whose derived chain names are distinct, the
    observable put together from the files does not depend on the order in which the caller lists them: names stay attached to
    the data of the file they were derived from. -/
theorem c17_assemble_file_order {δ : Type} (nameOf : String → String) (files files' : List (String × δ)) (hp : files.Perm files')
    (hnd : (files.map (fun f => nameOf f.1)).Nodup) :
    assembleByFile nameOf files = assembleByFile nameOf files' :=
  -- the names are distinct, so no two entries tie
  Py.sortBy_congr_of_nodup_key Prod.fst (fun _ _ => decide_eq_true_iff) (hp.map _)
    (by simpa only [List.map_map, Function.comp_def] using hnd)

/-- the defect repaired in /repo 74a17bd, as a statement about the assembly before the fix: with the names sorted on
    their own the result depends on the order of the files - two files listed in descending order exchange their data -/
theorem c17_names_sorted_apart_witness :
    assembleNamesSortedApart id [("ensAr2", 2), ("ensAr1", 1)] = [("ensAr1", 2), ("ensAr2", 1)] ∧
    assembleByFile id [("ensAr2", 2), ("ensAr1", 1)] = [("ensAr1", 1), ("ensAr2", 2)] := by
  decide +kernel


end PV
