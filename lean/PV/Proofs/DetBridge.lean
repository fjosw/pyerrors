/-
  The list-of-rows determinant of PV/Model/Gevp.lean (Laplace expansion along the first row) is
  Mathlib's `Matrix.det`; `List.set` is `updateRow`; the score of `_sort_vectors` as a product of determinants.
-/
import Mathlib.LinearAlgebra.Matrix.Determinant.Basic
import Mathlib.Data.List.GetD
import PV.Model.Gevp
import PV.Proofs.RealScalar

namespace PV.DetBridge
open PV.RealS Matrix

def ShapedR (A : List (List ℝ)) (m n : Nat) : Prop := A.length = m ∧ ∀ r ∈ A, r.length = n
/-- an entry the lists do not have reads as 0 -/
noncomputable def toMR (A : List (List ℝ)) (m n : Nat) : Matrix (Fin m) (Fin n) ℝ := fun i j => (A.getD i []).getD j 0

theorem getD_eraseIdx_succAbove {n : Nat} (r : List ℝ) (j : Fin (n + 1)) (k : Fin n) :
    (r.eraseIdx j).getD k 0 = r.getD (j.succAbove k) 0 := by
  rw [List.getD_eq_getElem?_getD, List.getElem?_eraseIdx, Fin.succAbove, List.getD_eq_getElem?_getD]
  simp only [Fin.lt_def, Fin.val_castSucc]
  split <;> rfl

/-- the minor of the Laplace expansion; holds whatever the shape of the lists -/
theorem toMR_eraseIdx (row : List ℝ) (rest : List (List ℝ)) (n : Nat) (j : Fin (n + 1)) :
    toMR (rest.map (·.eraseIdx j)) n n = (toMR (row :: rest) (n + 1) (n + 1)).submatrix Fin.succ j.succAbove := by
  funext i k
  have : (rest.map (·.eraseIdx j)).getD i [] = (rest.getD i []).eraseIdx j := List.getD_map rest [] (·.eraseIdx j)
  simp only [toMR, submatrix_apply, this, getD_eraseIdx_succAbove, Fin.val_succ, List.getD_cons_succ]

theorem det_eq : ∀ (n : Nat) (M : List (List ℝ)), ShapedR M n n → detAux n M = (toMR M n n).det
  | 0, M, _ => by simp [detAux]
  | n + 1, [], h => by cases h.1
  | n + 1, row :: rest, h => by
    have hsub (j : Nat) (hj : j < n + 1) : ShapedR (rest.map (·.eraseIdx j)) n n :=
      ⟨by simpa using h.1, List.forall_mem_map.mpr fun r hr => by
        have hr := h.2 r (.tail _ hr)
        rw [List.length_eraseIdx_of_lt (hr ▸ hj), hr, Nat.add_sub_cancel]⟩
    rw [Matrix.det_succ_row_zero]
    simp only [detAux, sum_eq, h.2 row List.mem_cons_self, ofNat_eq_lit, lit_eq, Nat.cast_one, Nat.cast_zero]
    refine (Finset.sum_range _).trans (Finset.sum_congr rfl fun j _ => ?_)
    rw [det_eq n _ (hsub j j.2), toMR_eraseIdx row]
    simp only [neg_one_pow_eq_ite, Nat.even_iff, beq_iff_eq]
    rfl

theorem det_model_eq (M : List (List ℝ)) (n : Nat) (h : ShapedR M n n) : PV.det M = (toMR M n n).det := by
  unfold PV.det
  rw [h.1]
  exact det_eq n M h

theorem shaped_set (M : List (List ℝ)) (n : Nat) (h : ShapedR M n n) (i : Nat) (v : List ℝ) (hv : v.length = n) :
    ShapedR (M.set i v) n n := by
  refine ⟨by simpa using h.1, ?_⟩
  intro r hr
  rcases List.mem_or_eq_of_mem_set hr with h1 | h1
  · exact h.2 r h1
  · rw [h1]; exact hv

theorem toMR_set (M : List (List ℝ)) (n : Nat) (h : ShapedR M n n) (i : Fin n) (v : List ℝ) :
    toMR (M.set i v) n n = (toMR M n n).updateRow i (fun j => v.getD j 0) := by
  funext a b
  simp only [toMR, Matrix.updateRow_apply, List.getD_eq_getElem?_getD, List.getElem?_set, Fin.ext_iff,
    h.1, i.2, eq_comm (a := (i : Nat)), if_true]
  split <;> rfl

theorem foldl_mul_eq_prod (n : Nat) (f : Nat → ℝ) :
    (List.range n).foldl (fun acc k => acc * f k) 1 = ∏ k : Fin n, f k := by
  rw [← Finset.prod_range, ← List.foldl_map, ← List.prod_eq_foldl]
  rfl

theorem permScore_eq (ref vecs : List (List ℝ)) (perm : List Nat) (n : Nat) (href : ShapedR ref n n)
    (τ : Fin n → Fin n) (v : Fin n → Fin n → ℝ) (hτ : ∀ k : Fin n, perm.getD k 0 = τ k)
    (hlen : ∀ k : Fin n, (vecs.getD k []).length = n) (hv : ∀ k j : Fin n, (vecs.getD k []).getD j 0 = v k j) :
    permScore ref vecs perm = ∏ k, |((toMR ref n n).updateRow (τ k) (v k)).det| := by
  rw [permScore, href.1]
  simp only [ofNat_eq_lit, lit_eq, Nat.cast_one]
  rw [foldl_mul_eq_prod]
  refine Finset.prod_congr rfl fun k _ => ?_
  rw [absS_eq, hτ, det_model_eq _ n (shaped_set ref n href _ _ (hlen k)), toMR_set ref n href]
  exact congrArg (fun r => |((toMR ref n n).updateRow (τ k) r).det|) (funext (hv k))

end PV.DetBridge
