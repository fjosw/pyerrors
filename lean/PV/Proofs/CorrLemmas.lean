/-
  Every operation of `Model/Corr` produces its content as a `map` over the operand's content, a `map` over
  `List.range T`, a `zipWith` or a padded list; the lemmas here say what timeslice `t` (`content.getD t none`) of each
  of these is, so that the theorems of C14 / C15 read the slice off the definition.
-/
import Mathlib.Data.List.GetD
import Mathlib.Data.List.Rotate
import PV.Model.Corr
import PV.Proofs.Basic

namespace PV

theorem getD_map_none {α γ : Type} {f : Option α → Option γ} (hf : f none = none) (l : List (Option α)) (t : Nat) :
    (l.map f).getD t none = f (l.getD t none) :=
  hf ▸ List.getD_map l none f

theorem all_isNone_iff {γ : Type} (l : List (Option γ)) :
    l.all (·.isNone) = true ↔ ∀ t, t < l.length → l.getD t none = none := by
  rw [List.all_eq_true, List.forall_mem_iff_forall_getElem]
  exact forall₂_congr fun t ht => by rw [Option.isNone_iff_eq_none, ← List.getElem_eq_getD]

theorem getD_pad {γ : Type} (l : List (Option γ)) (p q t : Nat) :
    (List.replicate p none ++ l ++ List.replicate q none).getD t none =
      if t < p then none else l.getD (t - p) none := by
  simp only [List.getD_eq_getElem?_getD, List.getElem?_append, List.getElem?_replicate, List.length_append,
    List.length_replicate]
  by_cases h1 : t < p
  · simp [h1, Nat.lt_add_right l.length h1]
  · by_cases h2 : t < p + l.length
    · simp [h1, h2]
    · rw [if_neg h2, if_neg h1, List.getElem?_eq_none (by omega)]
      split <;> rfl

/-! ### `np.roll` -/

theorem roll_eq_rotate {α} (l : List α) (k : Int) : Py.roll l k = l.rotate (-k % l.length).toNat := by
  by_cases h : l.length = 0
  · rw [List.length_eq_zero_iff.1 h]; rfl
  · have : (-k).emod l.length < l.length := Int.emod_lt_of_pos _ (Int.natCast_pos.2 (Nat.pos_of_ne_zero h))
    exact (if_neg h).trans (List.rotate_eq_drop_append_take (by omega)).symm

theorem roll_length {α} (l : List α) (k : Int) : (Py.roll l k).length = l.length := by
  rw [roll_eq_rotate, List.length_rotate]

theorem roll_getElem? {α} (l : List α) (k : Int) {t : Nat} (ht : t < l.length) :
    (Py.roll l k)[t]? = l[((t : Int) - k).emod l.length |>.toNat]? := by
  obtain ⟨s, hs⟩ := Int.eq_ofNat_of_zero_le (Int.emod_nonneg (-k) (show (l.length : Int) ≠ 0 by omega))
  rw [roll_eq_rotate, hs, Int.toNat_natCast, List.getElem?_rotate ht]
  -- the index `(t + s) mod n` with `s = -k mod n`
  show _ = l[(((t : Int) - k) % l.length).toNat]?
  rw [Int.sub_eq_add_neg, ← Int.add_emod_emod, hs, ← Int.natCast_add, ← Int.natCast_emod, Int.toNat_natCast]

open Corr

variable {β : Type}

def zipSpec (f : β → β → β) (x y : Option (Mat β)) : Option (Mat β) :=
  match x, y with
  | some u, some v => some (matZip f u v)
  | _, _ => none

theorem zipCorr_length (f : β → β → β) (a b : Corr β) (h : a.T = b.T) :
    (zipCorr f a b).length = a.T := by
  rw [zipCorr, List.length_zipWith, ← Corr.T, ← Corr.T, ← h, Nat.min_self]

/-- `zipWith` stops at the shorter operand, and `zipSpec` is undefined as soon as one side is: no bound on `t` -/
theorem zipCorr_getD (f : β → β → β) (a b : Corr β) (t : Nat) :
    (zipCorr f a b).getD t none = zipSpec f (a.content.getD t none) (b.content.getD t none) := by
  simp only [zipCorr, List.getD_eq_getElem?_getD, List.getElem?_zipWith]
  rcases a.content[t]? with _ | _ | _ <;> rcases b.content[t]? with _ | _ | _ <;> rfl

theorem mapCells_getD (f : β → β) (a : Corr β) (t : Nat) :
    (a.mapCells f).content.getD t none = (a.content.getD t none).map (·.map (·.map f)) :=
  getD_map_none rfl _ t

theorem applyFunc_getD [Scalar β] (f : β → β) (a : Corr β) (t : Nat) :
    ((a.content.map (·.map (·.map (·.map f)))).map nanToNone).getD t none
      = nanToNone ((a.content.getD t none).map (·.map (·.map f))) := by
  rw [getD_map_none rfl, getD_map_none rfl]

theorem cell?_of_slice {a : Corr β} {t : Nat} {o : Option β}
    (h : a.content.getD t none = o.map (fun x => [[x]])) : a.cell? t = o := by
  unfold Corr.cell?
  rw [h]
  cases o <;> rfl

theorem mapCells_cell (f : β → β) (a : Corr β) (t : Nat) : (a.mapCells f).cell? t = (a.cell? t).map f := by
  unfold Corr.cell?
  rw [mapCells_getD]
  -- a slice is a cell exactly when it has the shape `[[x]]`, and `map` keeps the shape
  rcases a.content.getD t none with _ | _ | ⟨_ | ⟨_, _ | _⟩, _ | _⟩ <;> rfl

theorem ofCells_getD (cells : List (Option β)) (padL padR t : Nat) :
    (ofCells cells padL padR).content.getD t none =
      if t < padL then none else (cells.getD (t - padL) none).map (fun x => [[x]]) := by
  unfold ofCells
  rw [getD_pad, getD_map_none rfl]

theorem ofCells_cell? (cells : List (Option β)) (padL padR t : Nat) :
    (ofCells cells padL padR).cell? t = if t < padL then none else cells.getD (t - padL) none := by
  apply cell?_of_slice
  rw [ofCells_getD]
  split <;> rfl

/-- so the hypotheses `2 ≤ a.T` / `4 ≤ a.T` of the C15 derivative theorems are implied by their `h` (which gives
    `3 ≤ a.T` / `5 ≤ a.T`) -/
theorem build_ok_pos (T lo n padL padR : Nat) (f : Nat → Option β) (r : Corr β)
    (h : Corr.build T lo n padL padR f = .ok r) : 0 < n := by
  cases n with
  | zero => simp [Corr.build] at h
  | succ n => omega

theorem build_ok {T lo n padL padR : Nat} {f : Nat → Option β} {r : Corr β}
    (h : Corr.build T lo n padL padR f = .ok r) :
    r.T = padL + n + padR ∧ r.N = 1 ∧
    ∀ t, r.cell? t = (if padL ≤ t ∧ t < padL + n then f (lo + (t - padL)) else none) := by
  simp only [build, ite_error_eq_ok, Except.ok.injEq] at h
  obtain ⟨-, rfl⟩ := h
  refine ⟨by simp [Corr.T, ofCells]; omega, rfl, fun t => ?_⟩
  rw [ofCells_cell?]
  by_cases h1 : t < padL
  · rw [if_pos h1, if_neg (by omega)]
  · by_cases h2 : t - padL < n
    · rw [if_neg h1, if_pos (by omega), getD_map_range _ _ h2]
    · rw [if_neg h1, if_neg (by omega), List.getD_eq_getElem?_getD, List.getElem?_eq_none (by simp; omega)]
      rfl

/-- the form every derivative and effective-mass variant uses: the window `[p, T - q)` read at the position it is
    written to, with the stencil `f` in whatever form `g` the caller states it; `p + q < T` follows from `build_ok_pos` -/
theorem build_window {T p q : Nat} {f g : Nat → Option β} {r : Corr β}
    (h : Corr.build T p (T - (p + q)) p q f = .ok r) (hfg : ∀ t, f t = g t) :
    r.T = T ∧ ∀ t, t < T → r.cell? t = if p ≤ t ∧ t + q < T then g t else none := by
  have hn := build_ok_pos _ _ _ _ _ _ _ h
  obtain ⟨h1, -, h2⟩ := build_ok h
  refine ⟨by omega, fun t _ => ?_⟩
  rw [h2, ← hfg]
  by_cases hc : p ≤ t ∧ t + q < T
  · rw [if_pos hc, if_pos (by omega), Nat.add_sub_cancel' hc.1]
  · rw [if_neg hc, if_neg (by omega)]

end PV
