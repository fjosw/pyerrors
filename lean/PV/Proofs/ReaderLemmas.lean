/-
  What the file readers do besides decoding records: the configuration bookkeeping (PV/Model/Bytes.lean: `select` /
  `pick` / `everyNth`, `renumber`), the fit window of `fit_t0` (PV/Model/FlowWindow.lean), and the two sorts by
  natural-number keys of `sort_names` (PV/Model/Names.lean), where by stability of `Py.sortBy` the second sort
  refines the first into the lexicographic order.
-/
import Mathlib.Data.List.Range
import Mathlib.Tactic.Ring
import PV.Model.Bytes
import PV.Model.FlowWindow
import PV.Proofs.Sort
import PV.Model.Names

namespace PV
open PV.Bytes

theorem everyNth_nil {β : Type} (step n : Nat) : everyNth step n ([] : List β) = [] := rfl

theorem everyNth_cons {β : Type} (step n : Nat) (x : β) (xs : List β) :
    everyNth step n (x :: xs) = if n % step = 0 then x :: everyNth step (n + 1) xs else everyNth step (n + 1) xs := by
  by_cases h : n % step = 0 <;> simp [everyNth, List.zipIdx_cons, h]

theorem everyNth_zip {β γ : Type} (step : Nat) : ∀ (n : Nat) (l1 : List β) (l2 : List γ),
    everyNth step n (l1.zip l2) = (everyNth step n l1).zip (everyNth step n l2)
  | _, [], _ => by simp [everyNth_nil]
  | _, _ :: _, [] => by simp [everyNth_nil]
  | n, x :: xs, y :: ys => by
    simp only [List.zip_cons_cons, everyNth_cons, everyNth_zip step (n + 1) xs ys]
    split <;> rfl

theorem everyNth_sublist {β : Type} (step : Nat) : ∀ (n : Nat) (l : List β), (everyNth step n l).Sublist l
  | _, [] => List.Sublist.slnil
  | n, x :: xs => by
    rw [everyNth_cons]
    split
    · exact (everyNth_sublist step (n + 1) xs).cons_cons x
    · exact (everyNth_sublist step (n + 1) xs).cons x

/-- counting from `n`, the next multiple of `step` is `r` positions ahead -/
theorem everyNth_getElem? {β : Type} (step : Nat) : ∀ (l : List β) (n r j : Nat), r < step → step ∣ n + r →
    (everyNth step n l)[j]? = l[r + j * step]?
  | [], _, _, _, _, _ => by simp [everyNth_nil]
  | x :: xs, n, 0, j, hr, hd => by
    have hd : step ∣ n := hd
    rw [everyNth_cons, if_pos (Nat.mod_eq_zero_of_dvd hd)]
    have hd' : step ∣ n + 1 + (step - 1) := by
      rw [show n + 1 + (step - 1) = n + step by omega]; exact Nat.dvd_add hd (Nat.dvd_refl step)
    cases j with
    | zero => simp
    | succ j =>
      rw [List.getElem?_cons_succ, everyNth_getElem? step xs (n + 1) (step - 1) j (by omega) hd',
        show 0 + (j + 1) * step = step - 1 + j * step + 1 by rw [Nat.add_mul]; omega, List.getElem?_cons_succ]
  | x :: xs, n, r + 1, j, hr, hd => by
    have hn : ¬ n % step = 0 := fun h0 =>
      Nat.not_dvd_of_pos_of_lt (Nat.succ_pos r) hr ((Nat.dvd_add_right (Nat.dvd_of_mod_eq_zero h0)).1 hd)
    rw [everyNth_cons, if_neg hn, everyNth_getElem? step xs (n + 1) r j (by omega) (by rwa [Nat.add_right_comm]),
      show r + 1 + j * step = r + j * step + 1 by omega, List.getElem?_cons_succ]

theorem pick_zip {β γ : Type} (i0 i1 step : Nat) (l1 : List β) (l2 : List γ) :
    pick i0 i1 step (l1.zip l2) = (pick i0 i1 step l1).zip (pick i0 i1 step l2) := by
  unfold pick
  rw [← everyNth_zip]
  simp only [List.zip, List.take_zipWith, List.drop_zipWith]

theorem pick_sublist {β : Type} (i0 i1 step : Nat) (l : List β) : (pick i0 i1 step l).Sublist l :=
  (everyNth_sublist _ _ _).trans ((List.drop_sublist _ _).trans (List.take_sublist _ _))

theorem renumber_eq {cfgs pre : List Int} {c0 prev last : Int} (thermal : Bool) (h0 : cfgs.head? = some c0)
    (h : cfgs = pre ++ [prev, last]) (hne : last - prev ≠ 0) :
    renumber cfgs thermal = some (cfgs.map (fun c =>
      Int.fdiv c (last - prev) - if thermal && decide (Int.fdiv c0 (last - prev) > 1) then Int.fdiv c0 (last - prev) - 1 else 0)) := by
  obtain ⟨t, rfl⟩ := List.head?_eq_some_iff.mp h0
  have hrev : (c0 :: t).reverse = last :: prev :: pre.reverse := by rw [h]; simp
  unfold renumber
  rw [hrev]
  simp only [beq_iff_eq, hne, if_false, List.map_cons]
  split <;> simp

end PV

namespace PV.Flow

theorem pySlice_nonneg {α : Type} (l : List α) (a b : Nat) :
    pySlice l (a : Int) (b : Int) = (l.drop (min a l.length)).take (min b l.length - min a l.length) := by
  have h (i : Nat) : (if (i : Int) < 0 then max ((i : Int) + l.length) 0 else min (i : Int) l.length).toNat = min i l.length := by
    omega
  simp only [pySlice, h]

theorem getElem_mem_drop_take {α : Type} (l : List α) (a b i : Nat) (hi : i < l.length) (h1 : a ≤ i) (h2 : i < b) :
    l[i] ∈ (l.drop a).take (b - a) := by
  obtain ⟨c, rfl⟩ := Nat.exists_eq_add_of_le h1
  rw [← List.getElem_drop (h := by rw [List.length_drop]; omega)]
  exact List.mem_take_iff_getElem.2 ⟨c, by rw [List.length_drop]; omega, rfl⟩

end PV.Flow

namespace PV.SortL
open PV.Names

variable {β : Type}

theorem sortByKey_perm (k : β → Nat) (l : List β) : (sortByKey k l).Perm l := Py.perm_sortBy _ l

theorem stage1_perm (l : List String) : (stage1 l).Perm l := by
  unfold stage1
  split
  · exact sortByKey_perm _ _
  · rfl

theorem stage2_perm (l : List String) : (stage2 l).Perm l := by
  unfold stage2
  split
  · exact sortByKey_perm _ _
  · rfl

theorem sortByKey_sorted (k : β → Nat) (l : List β) : (sortByKey k l).Pairwise (fun a b => k a ≤ k b) :=
  Py.pairwise_sortBy k (fun _ _ => decide_eq_true_iff) l

/-- major key `k2`, minor key `k1`: Mathlib's `toLex (k2 a, k1 a) ≤ toLex (k2 b, k1 b)` written out -/
def Lex (k2 k1 : β → Nat) (a b : β) : Prop := k2 a < k2 b ∨ (k2 a = k2 b ∧ k1 a ≤ k1 b)

theorem Lex.antisymm {k2 k1 : β → Nat} {a b : β} (h : Lex k2 k1 a b) (h' : Lex k2 k1 b a) :
    k2 a = k2 b ∧ k1 a = k1 b := by
  unfold Lex at h h'; omega

/-- the sort is stable, so entries that tie in `k2` keep the `k1` order they had -/
theorem sortByKey_lex (k2 k1 : β → Nat) (l : List β) (hl : l.Pairwise (fun a b => k1 a ≤ k1 b)) :
    (sortByKey k2 l).Pairwise (Lex k2 k1) := by
  refine (Py.sortBy_stable (fun a b => decide (k2 a ≤ k2 b)) (fun a b => by simp; omega)
    (fun a b c => by simp; omega) _ l hl).imp ?_
  intro a b h
  simp only [Py.Stable, decide_eq_true_eq] at h
  unfold Lex
  omega

end PV.SortL
