/-
  Property C06 — covariance and correlation matrices are consistent with the individual errors: on the executable
  model of `covariance` (PV/Model/Cov.lean).  The matrix algebra is in PV/Props/C06Alg.lean, the bridge from the list
  model to Mathlib matrices in PV/Proofs/CovLemmas.lean.
-/
import PV.Props.C06Alg
import PV.Proofs.CovLemmas

namespace PV
open Scalar

variable {α : Type} [Transc α]

/-- C06 (disjoint): observables without a common chain or covariance input have zero covariance -/
theorem c06_disjoint_zero (o1 o2 : Obs α)
    (h : (o1.names ++ o1.covNames).any (fun n => (o2.names ++ o2.covNames).contains n) = false) :
    covElement o1 o2 = 0 := by
  unfold covElement
  simp only [h, Bool.not_false, ↓reduceIte]

open PV.RealS

/-- **C06 (the assembled matrix is symmetric)**, covariance and correlation alike: the model of `covariance` computes
    the element from the unordered pair (the mirrored upper triangle) and the normalisation commutes. -/
theorem c06_model_symmetric (obs : List (Obs ℝ)) (dv : List ℝ) (correlation : Bool) (i j : Nat)
    (hi : i < obs.length) (hj : j < obs.length) :
    ((covarianceMatrix obs dv correlation).getD i []).getD j 0
      = ((covarianceMatrix obs dv correlation).getD j []).getD i 0 := by
  rw [C06c.covMatrix_entry dv correlation hi hj default, C06c.covMatrix_entry dv correlation hj hi default]
  simp only [Nat.min_comm j i, Nat.max_comm j i]
  cases correlation
  · simp only [Bool.false_eq_true, if_false]
    ring
  · simp only [if_true]
    ring

/-- **C06 (unit diagonal of the correlation matrix, diagonal = squared errors `dvalue_i²` of the covariance matrix).**
    Hypothesis: the self-covariance of observable i is positive. -/
theorem c06_model_diagonal (obs : List (Obs ℝ)) (dv : List ℝ) (i : Nat) (hi : i < obs.length)
    (hpos : 0 < covElement (obs.getD i default) (obs.getD i default)) :
    ((covarianceMatrix obs dv true).getD i []).getD i 0 = 1 ∧
    ((covarianceMatrix obs dv false).getD i []).getD i 0 = dv.getD i 0 * dv.getD i 0 := by
  have h1 : ∀ {x : ℝ}, 0 < x → x / Real.sqrt x / Real.sqrt x = 1 := fun hx => by
    rw [Real.div_sqrt, div_self (Real.sqrt_pos.2 hx).ne']
  constructor
  · rw [C06c.covMatrix_entry dv true hi hi default]
    simp only [Nat.min_self, Nat.max_self, if_true, h1 hpos]
  · rw [C06c.covMatrix_entry dv false hi hi default]
    simp only [Nat.min_self, Nat.max_self, Bool.false_eq_true, if_false, h1 hpos, mul_one]


/-- Cauchy–Schwarz for the inner product the model uses (lists of any lengths) -/
theorem c06_dot_cauchy_schwarz (a b : List ℝ) : |dot a b| ≤ Real.sqrt (dot a a * dot b b) :=
  Real.abs_le_sqrt (C06c.dot_sq_le a b)

/-- **C06 (Cauchy–Schwarz in the model).**  For observables without covariance inputs the element computed by the
    model of `_covariance_element` is bounded in modulus by the number of ensembles the two observables share: per
    ensemble it is Σ_r ⟨a_r, b_r⟩ / Σ_r √(⟨a_r, a_r⟩⟨b_r, b_r⟩) on the common configurations, of modulus at most one
    - for every layout of replicas and configuration lists. -/
theorem c06_model_element_bound (o1 o2 : Obs ℝ) (hc : o1.covs = []) :
    |covElement o1 o2| ≤ ((o1.mcNames.filter (fun e => o2.mcNames.contains e)).length : ℝ) := by
  unfold covElement
  split
  · rw [ofNat_eq_lit, lit_eq, Nat.cast_zero, abs_zero]; exact Nat.cast_nonneg _
  · simp only [hc, List.filterMap_nil, sum_eq, List.sum_nil, add_zero, ofNat_eq_lit, lit_eq, Nat.cast_zero,
      RealS.ite_isZero_div]
    -- each ensemble contributes at most 1
    refine (C06c.abs_sum_map_le _ (fun _ => 1) _ fun e _ => ?_).trans_eq
      (by rw [List.map_const', List.sum_replicate, nsmul_one])
    refine MatrixAlg.abs_div_le_one (C06c.abs_sum_map_le _ _ _ fun t ht => ?_)
    obtain ⟨⟨r1, r2⟩, _, hterm⟩ := List.mem_filterMap.1 ht
    cases (Option.ite_none_left_eq_some.1 hterm).2
    exact c06_dot_cauchy_schwarz _ _

/-- on a single ensemble the element lies in [-1, 1] -/
theorem c06_model_element_single (o1 o2 : Obs ℝ) (hc : o1.covs = []) (h1 : o1.mcNames.length ≤ 1) :
    |covElement o1 o2| ≤ 1 := by
  refine (c06_model_element_bound o1 o2 hc).trans ?_
  have : (o1.mcNames.filter (fun e => o2.mcNames.contains e)).length ≤ 1 :=
    (List.length_filter_le _ _).trans h1
  exact_mod_cast this

open Matrix in
/-- **C06 (the assembled correlation matrix of the executable model is `D (X Xᵀ) D`).**  For every list of
    observables that live on one common chain (same name, same configuration list, no covariance inputs, data not
    constant), the matrix computed by the model of `covariance(obs, correlation=True)` - through
    `_covariance_element` with its intersection by configuration number, the square-root normalisation and the
    mirrored triangle - is the Gram matrix `X Xᵀ` of the fluctuations conjugated with `D = diag(1/‖δ_i‖)`. -/
theorem c06_model_corr_is_gram (n : String) (idl : Idl) (hp : idl.toList.Pairwise (· < ·)) (obs : List (Obs ℝ)) (dv : List ℝ)
    (hall : ∀ o ∈ obs, C06c.OnChain n idl o ∧ 0 < dot (C06c.fl o) (C06c.fl o)) :
    C06c.modelM obs dv true
      = diagonal (C06c.dinv obs) * (C06c.X obs idl.len * (C06c.X obs idl.len)ᵀ) * diagonal (C06c.dinv obs) := by
  have hlen : ∀ k : Fin obs.length, (C06c.fl (obs.getD k default)).length ≤ idl.len := fun k => by
    rw [List.getD_eq_getElem _ _ k.isLt]; exact (C06c.fl_length (hall _ (List.getElem_mem _)).1).le
  ext i j
  rw [C06c.corr_entry hp dv hall i j, Matrix.mul_diagonal, Matrix.diagonal_mul, Matrix.mul_apply,
    C06m.dot_eq_sum idl.len _ _ (hlen i) (hlen j)]
  simp only [Matrix.transpose_apply, C06c.X, C06c.dinv]
  rw [div_eq_mul_inv, mul_inv, one_div, one_div]
  ring

open Matrix in
/-- **C06 (positive semidefiniteness, on the model).**  Under the same hypotheses the correlation matrix AND the
    covariance matrix (rescaled by any error vector `dv`) of the executable model are symmetric and positive
    semidefinite: `vᵀ C v ≥ 0` for every `v`.  (On observables with different configuration subsets the
    intersections differ from pair to pair and the matrix need not be PSD - which is why pyerrors warns about
    it; that regime is covered by the element bound above.) -/
theorem c06_model_psd_common_chain (n : String) (idl : Idl) (hp : idl.toList.Pairwise (· < ·)) (obs : List (Obs ℝ)) (dv : List ℝ)
    (hall : ∀ o ∈ obs, C06c.OnChain n idl o ∧ 0 < dot (C06c.fl o) (C06c.fl o)) :
    ((C06c.modelM obs dv true).IsSymm ∧ ∀ v : Fin obs.length → ℝ, 0 ≤ v ⬝ᵥ (C06c.modelM obs dv true) *ᵥ v) ∧
    ((C06c.modelM obs dv false).IsSymm ∧ ∀ v : Fin obs.length → ℝ, 0 ≤ v ⬝ᵥ (C06c.modelM obs dv false) *ᵥ v) := by
  obtain ⟨hs, -, hpos⟩ := c06_gram_psd (C06c.X obs idl.len)ᵀ
  rw [Matrix.transpose_transpose] at hs hpos
  have hr := c06_rescale_psd _ (C06c.dinv obs) hpos
  rw [← c06_model_corr_is_gram n idl hp obs dv hall] at hr
  have hr' := c06_rescale_psd _ (fun i : Fin obs.length => dv.getD i 0) hr.1
  rw [← C06c.cov_is_rescaled] at hr'
  exact ⟨⟨hr.2 hs, hr.1⟩, hr'.2 (hr.2 hs), hr'.1⟩

/-- **C06 (Pearson).**  The element on a common chain is the normalised inner product of the fluctuations (the formula
    the two theorems above rest on). -/
theorem c06_model_element_common_chain (n : String) (idl : Idl) (hp : idl.toList.Pairwise (· < ·))
    (o1 o2 : Obs ℝ) (h1 : C06c.OnChain n idl o1) (h2 : C06c.OnChain n idl o2) :
    covElement o1 o2 = dot (C06c.fl o1) (C06c.fl o2)
      / Real.sqrt (dot (C06c.fl o1) (C06c.fl o1) * dot (C06c.fl o2) (C06c.fl o2)) :=
  C06c.covElement_onChain hp h1 h2

/-- non-vacuity: two observables on the chain `A|r1`, configurations 1, 3, 4 -/
example : let o1 : Obs ℝ := { value := 1, reps := [{ name := "A|r1", idl := .list [1, 3, 4], deltas := [1, -2, 1], rvalue := 1 }], covs := [] }
    let o2 : Obs ℝ := { value := 2, reps := [{ name := "A|r1", idl := .list [1, 3, 4], deltas := [2, 0, -2], rvalue := 2 }], covs := [] }
    (∀ o ∈ [o1, o2], C06c.OnChain "A|r1" (.list [1, 3, 4]) o ∧ 0 < dot (C06c.fl o) (C06c.fl o))
      ∧ (Idl.list [1, 3, 4]).toList.Pairwise (· < ·) := by
  intro o1 o2
  refine ⟨List.forall_mem_cons.2 ⟨?_, List.forall_mem_singleton.2 ?_⟩, by decide⟩
  · exact ⟨⟨rfl, _, rfl, rfl, rfl, rfl⟩, by simp [C06c.fl, o1, dot, ofNat_eq_lit, lit_eq]; norm_num⟩
  · exact ⟨⟨rfl, _, rfl, rfl, rfl, rfl⟩, by simp [C06c.fl, o2, dot, ofNat_eq_lit, lit_eq]⟩


end PV
