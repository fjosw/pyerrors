/-
  `readlines()` (PV/Model/Text.lean) on a byte prefix of a text of complete lines returns the complete lines before the
  cut and at most one unterminated piece (`readlines_take_text`).  At the end the list fact by which the block test
  `readBlock`, once it has passed on a prefix of the lines, returns lines of the whole file.
-/
import PV.Model.Text
import Mathlib.Data.List.Basic

namespace PV.Text

theorem rl_append (cur l s : List Char) (h : '\n' ∉ l) : rl cur (l ++ s) = rl (l.reverse ++ cur) s := by
  induction l generalizing cur with
  | nil => rfl
  | cons c l ih =>
    rw [List.mem_cons, not_or] at h
    rw [List.cons_append, rl, if_neg (Ne.symm h.1), ih _ h.2, List.reverse_cons, List.append_assoc]
    rfl

/-- text of complete lines -/
def text (Ls : List (List Char)) : List Char := Ls.flatMap (· ++ ['\n'])

theorem text_cons (l : List Char) (Ls : List (List Char)) : text (l :: Ls) = l ++ '\n' :: text Ls := by simp [text]

theorem readlines_lines_rest (Ls : List (List Char)) (hnl : ∀ l ∈ Ls, '\n' ∉ l) (p : List Char) (hp : '\n' ∉ p) :
    readlines (text Ls ++ p) = Ls.map (· ++ ['\n']) ++ (if p.isEmpty then [] else [p]) := by
  unfold readlines
  induction Ls with
  | nil => simpa [text, rl] using rl_append [] p [] hp
  | cons l Ls ih =>
    rw [List.forall_mem_cons] at hnl
    rw [text_cons, List.append_assoc, List.cons_append, rl_append [] l _ hnl.1, rl, if_pos rfl, ih hnl.2]
    simp

theorem take_text (Ls : List (List Char)) (hnl : ∀ l ∈ Ls, '\n' ∉ l) (k : Nat) :
    ∃ m p, m ≤ Ls.length ∧ '\n' ∉ p ∧ (text Ls).take k = text (Ls.take m) ++ p := by
  induction Ls generalizing k with
  | nil => exact ⟨0, [], Nat.le_refl 0, List.not_mem_nil, by simp [text]⟩
  | cons l Ls ih =>
    rw [List.forall_mem_cons] at hnl
    rcases Nat.lt_or_ge l.length k with hk | hk
    · obtain ⟨k', rfl⟩ : ∃ k', k = l.length + (k' + 1) := ⟨k - l.length - 1, by omega⟩
      obtain ⟨m, p, hm, hp, hpre⟩ := ih hnl.2 k'
      refine ⟨m + 1, p, Nat.succ_le_succ hm, hp, ?_⟩
      rw [text_cons, List.take_length_add_append, List.take_succ_cons, hpre, List.take_succ_cons, text_cons, List.append_assoc,
        List.cons_append]
    · refine ⟨0, l.take k, Nat.zero_le _, fun hmem => hnl.1 (List.mem_of_mem_take hmem), ?_⟩
      rw [text_cons, List.take_append_of_le_length hk]
      rfl

theorem readlines_take_text (Ls : List (List Char)) (hnl : ∀ l ∈ Ls, '\n' ∉ l) (k : Nat) :
    ∃ m rest, m ≤ Ls.length ∧ rest.length ≤ 1 ∧
      readlines ((text Ls).take k) = (Ls.take m).map (· ++ ['\n']) ++ rest := by
  obtain ⟨m, p, hm, hp, hpre⟩ := take_text Ls hnl k
  refine ⟨m, if p.isEmpty then [] else [p], hm, by split <;> simp, ?_⟩
  rw [hpre, readlines_lines_rest _ (fun l hl => hnl l (List.mem_of_mem_take hl)) p hp]

theorem drop_take_of_prefix {α : Type} {A X : List α} (h : A <+: X) (s T : Nat) (hl : s + T ≤ A.length) :
    (X.drop s).take T = (A.drop s).take T := by
  obtain ⟨t, rfl⟩ := h
  rw [List.drop_append_of_le_length (by omega), List.take_append_of_le_length (by rw [List.length_drop]; omega)]

end PV.Text
