/-
  Property C08 — non-linear and total least-squares fits obey the implicit-function rule: on the executable
  implicit-function step `iftSens` of PV/Model/Gls.lean.  The mathematics (implicit-function algebra, one-dimensional
  analytic form, block slices of the ODR Hessian, TLS limit) is in PV/Props/C08Alg.lean.
-/
import PV.Props.C08Alg
import PV.Props.C07

namespace PV

/-- the slice bookkeeping of total_least_squares: rows [:a], columns [a:] of an (a+b) x (a+b)
    matrix have a rows and b columns for every a, b (index arithmetic is total) -/
theorem c08_slice_shape (a b : Nat) : (a + b) - a = b ∧ min a (a + b) = a := by omega


open PV.Gls

/-- **C08 (the executable implicit-function step).**  Whatever `iftSens H M` returns satisfies `H X + M = 0`
    column by column, exactly - the algebraic form of the implicit-function rule (`c08_ift_alg`) evaluated on
    the Hessian and the mixed derivative of the chi-square at the fitted point. -/
theorem c08_iftSens_sound (H M X : Mat) (h : iftSens H M = some X) :
    ∃ cols, X = transpose cols ∧
      List.Forall₂ (fun col x => mulVec H x = col.map (fun v => -v)) (transpose M) cols := by
  obtain ⟨cols, hcols, rfl⟩ := iftSens_eq_some h
  exact ⟨cols, rfl, (mapM_eq_some_forall₂.mp hcols).imp fun _ _ hs => (solveChecked_sound hs).1⟩

/-- **C08 (the executable step is the implicit-function rule).**  For a well-shaped Hessian `H` (n × n) and mixed
    derivative `M` (n × k) what `iftSens` returns satisfies `H X = -M` as Mathlib matrices and equals `-H⁻¹ M`
    whenever `H` is invertible: the sensitivity of the minimiser with respect to the data that `c08_ift_alg`
    derives from stationarity. -/
theorem c08_iftSens_is_rule (H M X : Mat) (n k : Nat) (hH : Shaped H n n) (hM : Shaped M n k)
    (hn : 1 ≤ n) (hk : 1 ≤ k) (h : iftSens H M = some X) :
    toM H n n * toM X n k = - toM M n k ∧
    (IsUnit (toM H n n).det → toM X n k = - ((toM H n n)⁻¹ * toM M n k)) := by
  obtain ⟨cols, hcols, rfl⟩ := iftSens_eq_some h
  have key : toM H n n * toM (transpose cols) n k = - toM M n k := mul_toM_transpose (-·) hH hM hn hk hcols
  exact ⟨key, fun hu => by rw [(MatrixAlg.mul_eq_iff_eq_inv_mul hu _ _).1 key, Matrix.mul_neg]⟩


end PV
