/-
  Property C14 — correlator arithmetic acts timeslice-wise and propagates undefined slices.
  The theorems hold for every cell type β (observables, complex observables, numbers) and every temporal extent /
  matrix dimension.
-/
import PV.Proofs.CorrLemmas

namespace PV
open Corr

variable {β : Type}

/-- C14 (Corr ⊙ scalar for `+ - * /`, neg, abs, exp): `mapCells f` keeps extent, dimension and
    plateau range, and acts on every entry of every defined slice -/
theorem c14_mapCells (f : β → β) (a : Corr β) :
    (a.mapCells f).T = a.T ∧ (a.mapCells f).N = a.N ∧ (a.mapCells f).prange = a.prange ∧
    ∀ t, (a.mapCells f).content.getD t none = (a.content.getD t none).map (·.map (·.map f)) :=
  ⟨List.length_map _, rfl, rfl, mapCells_getD f a⟩

/-- C14 (reverse): slice t of the reversed correlator is slice T-1-t -/
theorem c14_reverse (a : Corr β) (t : Nat) (ht : t < a.T) :
    a.reverse.content.getD t none = a.content.getD (a.T - 1 - t) none :=
  congrFun (List.getD_reverse t ht) none

/-- C14 (Corr + Corr): same temporal extent and matrix dimension; slice t is undefined iff an
    operand is undefined there, else the element-wise sum of the operands' slices -/
theorem c14_add_pointwise [Add β] (a b c : Corr β) (h : Corr.add a b = .ok c) :
    c.T = a.T ∧ c.N = a.N ∧
    ∀ t, t < a.T → c.content.getD t none = zipSpec (· + ·) (a.content.getD t none) (b.content.getD t none) := by
  obtain ⟨hc, h⟩ := ite_error_eq_ok.1 h
  cases h
  have hT : a.T = b.T := by simp at hc; exact hc.2
  exact ⟨zipCorr_length _ a b hT, rfl, fun t _ => zipCorr_getD _ a b t⟩

/-- C14 (Corr * Corr): as for `+`, with matrix dimension `max a.N b.N` (numpy broadcasts an `N = 1` operand) -/
theorem c14_mul_pointwise [Mul β] (a b c : Corr β) (h : Corr.mul a b = .ok c) :
    c.T = a.T ∧ c.N = max a.N b.N ∧
    ∀ t, t < a.T → c.content.getD t none = zipSpec (· * ·) (a.content.getD t none) (b.content.getD t none) := by
  obtain ⟨hc, h⟩ := ite_error_eq_ok.1 h
  cases h
  have hT : a.T = b.T := by simp at hc; exact hc.2
  exact ⟨zipCorr_length _ a b hT, rfl, fun t _ => zipCorr_getD _ a b t⟩

/-- C14 (Corr / Corr): as above, and additionally undefined where the quotient is not a number -/
theorem c14_div_pointwise [Scalar β] (a b c : Corr β) (h : Corr.div a b = .ok c) :
    c.T = a.T ∧
    ∀ t, t < a.T → c.content.getD t none =
      nanToNone (zipSpec (· / ·) (a.content.getD t none) (b.content.getD t none)) := by
  simp only [Corr.div, ite_error_eq_ok, Except.ok.injEq] at h
  obtain ⟨hc, -, rfl⟩ := h
  have hT : a.T = b.T := by simp at hc; exact hc.2
  exact ⟨(List.length_map _).trans (zipCorr_length _ a b hT), fun t _ => by rw [getD_map_none rfl, zipCorr_getD]⟩

/-- C14 (functions, `_apply_func_to_corr`): an elementary function acts on every entry of every defined slice; a
    slice whose result is not a number becomes undefined -/
theorem c14_applyFunc [Scalar β] (f : β → β) (a c : Corr β) (h : Corr.applyFunc f a = .ok c) :
    c.T = a.T ∧ c.N = a.N ∧
    ∀ t, c.content.getD t none = nanToNone ((a.content.getD t none).map (·.map (·.map f))) := by
  obtain ⟨-, h⟩ := ite_error_eq_ok.1 h
  cases h
  exact ⟨(List.length_map _).trans (List.length_map _), rfl, applyFunc_getD f a⟩

/-- ... and the call fails exactly when no slice of the result is defined -/
theorem c14_applyFunc_fails_iff [Scalar β] (f : β → β) (a : Corr β) :
    (∃ e, Corr.applyFunc f a = .error e) ↔
      ∀ t, t < a.T → nanToNone ((a.content.getD t none).map (·.map (·.map f))) = none := by
  simp only [Corr.applyFunc, ite_error_fails, all_isNone_iff, applyFunc_getD, List.length_map, Corr.T]

/-- C14 (roll): slice t of the rolled correlator is slice (t - dt) mod T, for EVERY integer shift
    (also |dt| > T) -/
theorem c14_roll (a : Corr β) (dt : Int) (t : Nat) (ht : t < a.T) :
    (a.roll dt).T = a.T ∧
    (a.roll dt).content.getD t none = a.content.getD (Int.toNat (Int.emod ((t : Int) - dt) (a.T : Int))) none := by
  refine ⟨roll_length _ _, ?_⟩
  rw [List.getD_eq_getElem?_getD, List.getD_eq_getElem?_getD]
  exact congrArg (·.getD none) (roll_getElem? a.content dt ht)

/-- C14 (thin): keeps exactly the slices with (offset + t) ≡ 0 mod spacing -/
theorem c14_thin (a : Corr β) (spacing : Nat) (offset : Int) (t : Nat) (ht : t < a.T) :
    (a.thin spacing offset).T = a.T ∧
    (a.thin spacing offset).content.getD t none =
      (if Py.fmod (offset + t) spacing != 0 then none else a.content.getD t none) := by
  have h1 : t < a.content.length := ht
  simp [Corr.thin, Corr.T, List.getD_eq_getElem?_getD, h1]

/-- C14 (symmetric / anti_symmetric): slice 0 is kept; slice t ≥ 1 is ½(C(t) ± C(T-t)), undefined
    when either is undefined -/
theorem c14_symmetrize [Scalar β] (sign half : β) (a c : Corr β) (h : Corr.symmetrize sign half a = .ok c) :
    c.T = a.T ∧ c.prange = a.prange ∧ c.content.getD 0 none = a.content.getD 0 none ∧
    ∀ t, 1 ≤ t → t < a.T → c.cell? t =
      (match a.cell? t, a.cell? (a.T - t) with
       | some x, some y => some (half * (x + sign * y))
       | _, _ => none) := by
  simp only [Corr.symmetrize, ite_error_eq_ok, Except.ok.injEq] at h
  obtain ⟨-, -, hall, rfl⟩ := h
  refine ⟨(List.length_map _).trans List.length_range, rfl, ?_, fun t h1 ht => ?_⟩
  · -- a correlator of extent 0 has no defined slice and is refused
    have h0 : 0 < a.T := Nat.pos_of_ne_zero fun h0 => hall (by rw [h0]; rfl)
    rw [getD_map_range _ _ h0]; rfl
  · apply cell?_of_slice
    rw [getD_map_range _ _ ht, if_neg (by rw [beq_iff_eq]; omega)]
    cases a.cell? t <;> cases a.cell? (a.T - t) <;> rfl

/-- C14 (Hankel, periodic): entry (i, j) of slice t is C((t + i + j) mod T) -/
theorem c14_hankel_periodic (a c : Corr β) (n : Nat) (h : a.hankel n true = .ok c) (t : Nat) (ht : t < a.T) :
    c.T = a.T ∧ c.N = n ∧
    c.content.getD t none =
      (List.range n).mapM (fun i => (List.range n).mapM (fun j => a.cell? ((t + i + j) % a.T))) := by
  obtain ⟨-, h⟩ := ite_error_eq_ok.1 h
  cases h
  exact ⟨(List.length_map _).trans List.length_range, rfl, getD_map_range _ _ ht⟩

/-- C14 (Hankel, not periodic): slices whose window leaves the lattice are undefined -/
theorem c14_hankel_open (a c : Corr β) (n : Nat) (hn : 0 < n) (h : a.hankel n false = .ok c) (t : Nat) (ht : t < a.T) :
    c.content.getD t none =
      (if t + 2 * (n - 1) ≥ a.T then none
       else (List.range n).mapM (fun i => (List.range n).mapM (fun j => a.cell? (t + i + j)))) := by
  obtain ⟨-, h⟩ := ite_error_eq_ok.1 h
  cases h
  rw [getD_map_range _ _ ht]
  simp [hn]

/-- C14 (item): `item(i, j)` keeps the temporal extent, is single-valued, and on every timeslice holds
    entry (i, j) of the operand's matrix — undefined exactly where the operand is undefined (or has
    no such entry) -/
theorem c14_item (a c : Corr β) (i j : Nat) (h : a.item i j = .ok c) :
    c.T = a.T ∧ c.N = 1 ∧
    ∀ t, t < a.T → c.content.getD t none =
      (a.content.getD t none).bind (fun mm => ((mm.getD i [])[j]?).map (fun x => [[x]])) := by
  obtain ⟨-, h⟩ := ite_error_eq_ok.1 h
  cases h
  refine ⟨List.length_map _, rfl, fun t _ => ?_⟩
  rw [getD_map_none rfl]
  rcases a.content.getD t none with _ | mm
  · rfl
  · show (match (mm.getD i [])[j]? with | some x => some [[x]] | none => none) = ((mm.getD i [])[j]?).map _
    cases (mm.getD i [])[j]? <;> rfl

/-- C14 (trace): on every defined timeslice the sum of the diagonal entries; undefined exactly where
    the operand is undefined -/
theorem c14_trace [Scalar β] (a c : Corr β) (h : a.trace = .ok c) :
    c.T = a.T ∧ c.N = 1 ∧
    ∀ t, t < a.T → c.content.getD t none =
      (a.content.getD t none).map (fun mm => [[Scalar.sum ((List.range a.N).map (fun i => (mm.getD i []).getD i 0))]]) := by
  obtain ⟨-, h⟩ := ite_error_eq_ok.1 h
  cases h
  exact ⟨List.length_map _, rfl, fun t _ => getD_map_none rfl _ t⟩

/-- `item` and `trace` are refused for single-valued correlators -/
theorem c14_item_trace_need_matrix [Scalar β] (a : Corr β) (h : a.N = 1) (i j : Nat) :
    a.item i j = .error .needMatrix ∧ a.trace = .error .needMatrix := by
  simp [Corr.item, Corr.trace, h]

/-- C14 (`Corr(<N × N array of single-valued correlators>)`): whatever array the constructor accepts, the result has
    dimension N = number of rows, and on every timeslice `t` it is undefined exactly where SOME entry is undefined at `t`; where
    it is defined, entry (i, j) of its matrix is the cell of correlator (i, j) at `t` - no transposition, no shift in `t`. -/
theorem c14_ctor_matrix (cs : List (List (Corr β))) (c : Corr β) (h : Corr.ofMatrix cs = .ok c) :
    c.N = cs.length ∧
    ∀ t, t < c.T →
      (∀ m, c.content[t]? = some (some m) →
        ∀ i (hi : i < cs.length) j (hj : j < cs[i].length), (cs[i][j]).cell? t = (m[i]?.bind (·[j]?))) ∧
      (c.content[t]? = some none ↔ ∃ i, ∃ hi : i < cs.length, ∃ j, ∃ hj : j < cs[i].length, (cs[i][j]).cell? t = none) := by
  obtain ⟨-, h⟩ := ite_error_eq_ok.1 h
  obtain ⟨-, h⟩ := ite_error_eq_ok.1 h
  split at h
  · cases h
  rename_i c0 _ _
  obtain ⟨-, h⟩ := ite_error_eq_ok.1 h
  cases h
  refine ⟨rfl, fun t ht => ?_⟩
  have ht' : t < c0.T := by simpa [Corr.T] using ht
  simp only [List.getElem?_map, List.getElem?_range ht', Option.map_some, Option.some.injEq]
  constructor
  · intro m hm i hi j hj
    obtain ⟨mi, hmi, hrow⟩ := mapM_getElem hm hi
    obtain ⟨v, hv, hcell⟩ := mapM_getElem hrow hj
    rw [hmi, hcell]
    exact hv.symm
  · simp only [mapM_eq_none_iff, List.exists_mem_iff_exists_getElem]

end PV
