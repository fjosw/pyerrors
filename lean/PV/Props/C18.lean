/-
  Property C18 - truncated measurement files never produce wrong numbers.  The statements about the binary formats are
  `RecordLoop.prefix_safe` and `RecordLoop.read_take` (Proofs/BytesLemmas.lean) at the stream loop and at the chunked
  loop; those about the text layouts rest on Proofs/TextLemmas.lean.
-/
import PV.Proofs.BytesLemmas
import PV.Proofs.TextLemmas

namespace PV
open PV.Bytes

/-- C18 (truncation, stream readers): a file cut after `k` bytes is either rejected or yields
    exactly the complete records that precede the cut — never a record assembled from a partial
    payload, never a shifted or dropped one.  (By `RecordLoop.prefix_safe` it is accepted only when the cut
    falls on a record boundary or inside the 4-byte configuration number that starts a record.) -/
theorem c18_prefix_safe (P : Nat) (rs : List Rec) (h : RecsOK P rs) (k : Nat)
    (fuel : Nat) (hf : rs.length < fuel) :
    (∃ e, readRecords P fuel ((encodeRecords rs).take k) [] = .error e) ∨
    readRecords P fuel ((encodeRecords rs).take k) [] = .ok (rs.take (k / (4 + P))) :=
  ((readRecords_loop P).prefix_safe rs h k fuel hf).imp_right And.right

/-- C18: and it IS rejected whenever the cut falls inside a payload -/
theorem c18_cut_in_payload_rejected (P : Nat) (rs : List Rec) (h : RecsOK P rs) (k : Nat)
    (fuel : Nat) (hf : rs.length < fuel) (hk : k < (encodeRecords rs).length)
    (hin : 4 ≤ k % (4 + P)) :
    ∃ e, readRecords P fuel ((encodeRecords rs).take k) [] = .error e := by
  obtain ⟨_, e⟩ := (readRecords_loop P).read_take rs h k fuel hf hk
  rw [e, if_neg (by simp; omega)]
  exact ⟨_, rfl⟩

/-- C18 (no shift): the configuration numbers of the surviving records are unchanged -/
theorem c18_no_shift (P : Nat) (rs got : List Rec) (h : RecsOK P rs) (k fuel : Nat) (hf : rs.length < fuel)
    (hok : readRecords P fuel ((encodeRecords rs).take k) [] = .ok got) :
    got.map (·.cfg) = (rs.map (·.cfg)).take got.length := by
  rcases c18_prefix_safe P rs h k fuel hf with ⟨e, he⟩ | hh
  · cases he.symm.trans hok
  · cases hh.symm.trans hok
    rw [List.map_take, List.length_take, List.take_eq_take_iff, List.length_map]
    omega

/-- C18 (chunked reader of `read_ms5_xsf`): the same, and accepted only on chunk boundaries -/
theorem c18_prefix_safe_chunks (P : Nat) (rs : List Rec) (h : RecsOK P rs) (k : Nat)
    (fuel : Nat) (hf : rs.length < fuel) :
    (∃ e, readChunks P fuel ((encodeRecords rs).take k) [] = .error e) ∨
    (k % (4 + P) = 0 ∨ (encodeRecords rs).length ≤ k) ∧
      readChunks P fuel ((encodeRecords rs).take k) [] = .ok (rs.take (k / (4 + P))) := by
  simpa using (readChunks_loop P).prefix_safe rs h k fuel hf

open PV.Text

/-- C18 (text layouts): cut the file of complete lines `Ls` at any byte `k`; if the block test lets T data
    lines from line `start` through, they are exactly the stored lines `start .. start+T-1` -/
theorem c18_text_prefix_safe (Ls : List (List Char)) (hnl : ∀ l ∈ Ls, '\n' ∉ l) (k start T : Nat)
    (blk : List (List Char))
    (h : readBlock (readlines ((text Ls).take k)) start T = some blk) :
    blk = ((Ls.map (· ++ ['\n'])).drop start).take T ∧ start + T ≤ Ls.length := by
  obtain ⟨m, rest, hm, hr, e⟩ := readlines_take_text Ls hnl k
  have hlen : ((Ls.take m).map (· ++ ['\n'])).length = m := by
    rw [List.length_map, List.length_take, Nat.min_eq_left hm]
  rw [e, readBlock, Option.ite_none_left_eq_some, List.length_append, Option.some.injEq] at h
  obtain ⟨hlt, rfl⟩ := h
  have hA : start + T ≤ ((Ls.take m).map (· ++ ['\n'])).length := by omega
  refine ⟨?_, by omega⟩
  rw [drop_take_of_prefix (List.prefix_append _ _) _ _ hA]
  exact (drop_take_of_prefix ((List.take_prefix m Ls).map _) _ _ hA).symm

/-- refused: a file that does not hold `start + T` lines, and a cut directly behind the last data line (no line follows it) -/
theorem c18_text_cut_refused (Ls : List (List Char)) (hnl : ∀ l ∈ Ls, '\n' ∉ l) (k start T : Nat)
    (hshort : start + T > Ls.length ∨ (text Ls).take k = text (Ls.take (start + T))) :
    readBlock (readlines ((text Ls).take k)) start T = none := by
  rcases hshort with hs | hs
  · refine Option.eq_none_iff_forall_ne_some.mpr fun blk h => ?_
    have := (c18_text_prefix_safe Ls hnl k start T blk h).2
    omega
  · rw [hs, ← List.append_nil (text _), readlines_lines_rest _ (fun l hl => hnl l (List.mem_of_mem_take hl)) []
      List.not_mem_nil, readBlock, if_pos]
    rw [List.isEmpty_nil, if_pos rfl, List.append_nil, List.length_map, List.length_take]
    omega


end PV
