/-
  Property C20 — constant tables and special-function derivatives are mathematically exact.
  The tables are REGENERATED from pyerrors/dirac.py and pyerrors/special.py on every run
  (PV/Gen/Dirac.lean); every theorem below is decided by the kernel over the whole finite domain.
-/
import PV.Gen.Dirac

namespace PV
open PV.Gen.Dirac GMat

/-- the translator recognised the source -/
theorem c20_translated : translated = true := by decide

def gam (mu : Nat) : GMat := gammaList.getD mu []

/-- Euclidean Clifford algebra: {γ_μ, γ_ν} = 2 δ_μν for all 16 pairs -/
theorem c20_clifford : ∀ mu ∈ List.range 4, ∀ nu ∈ List.range 4,
    add (mul (gam mu) (gam nu)) (mul (gam nu) (gam mu)) = (if mu = nu then smul 2 one else zero) := by
  decide +kernel

/-- there are four γ_μ (`gammaList` is generated in the order x, y, z, t); they, γ_5 and the identity are 4×4 -/
theorem c20_shape : gammaList.length = 4 ∧ (∀ m ∈ gamma5 :: identity :: gammaList, m.length = 4 ∧ ∀ r ∈ m, r.length = 4) := by
  decide +kernel

/-- Hermiticity of γ_x, γ_y, γ_z, γ_t and γ_5 -/
theorem c20_hermitian : ∀ m ∈ gamma5 :: gammaList, dagger m = m := by decide +kernel

/-- γ_5 = γ_x γ_y γ_z γ_t -/
theorem c20_gamma5_product : mul (mul (mul (gam 0) (gam 1)) (gam 2)) (gam 3) = gamma5 := by decide +kernel

/-- {γ_5, γ_μ} = 0 -/
theorem c20_gamma5_anticommutes : ∀ mu ∈ List.range 4,
    add (mul gamma5 (gam mu)) (mul (gam mu) gamma5) = zero := by decide +kernel

theorem c20_identity : identity = one := by decide +kernel

/-- the stated meaning of the 16 Grid tags: products with γ_5 and commutators ½[γ_μ, γ_ν] -/
def gridSpec : List (String × GExpr) :=
  let comm (a b : Nat) : GExpr := .half (.sub (.mul (.g a) (.g b)) (.mul (.g b) (.g a)))
  [("Identity", .one), ("Gamma5", .g5), ("GammaX", .g 0), ("GammaY", .g 1), ("GammaZ", .g 2), ("GammaT", .g 3),
   ("GammaXGamma5", .mul (.g 0) .g5), ("GammaYGamma5", .mul (.g 1) .g5), ("GammaZGamma5", .mul (.g 2) .g5),
   ("GammaTGamma5", .mul (.g 3) .g5),
   ("SigmaXT", comm 0 3), ("SigmaXY", comm 0 1), ("SigmaXZ", comm 0 2), ("SigmaYT", comm 1 3),
   ("SigmaYZ", comm 1 2), ("SigmaZT", comm 2 3)]

def evalG (e : GExpr) : GMat := e.eval gammaList gamma5 identity

/-- every named Grid gamma structure equals the stated product / commutator (as matrices),
    exactly these 16 tags exist, and any other tag raises -/
theorem c20_grid_tags :
    gridTable.map (·.1) = gridSpec.map (·.1) ∧
    (∀ p ∈ List.zip gridTable gridSpec, evalG p.1.2 = evalG p.2.2) ∧
    gridElseRaises = true := by decide +kernel

/-- the factor 0.5 in the commutators is exact: every commutator has even entries -/
theorem c20_half_exact : ∀ p ∈ gridTable, p.2.halfExact gammaList gamma5 identity = true := by decide +kernel

/-- commutators really are ½[γ_μ, γ_ν]: twice the table entry is the commutator -/
theorem c20_sigma_commutator : ∀ q ∈ [("SigmaXT", 0, 3), ("SigmaXY", 0, 1), ("SigmaXZ", 0, 2), ("SigmaYT", 1, 3), ("SigmaYZ", 1, 2), ("SigmaZT", 2, 3)],
    ∀ e, gridTable.lookup q.1 = some e →
      smul 2 (evalG e) = sub (mul (gam q.2.1) (gam q.2.2)) (mul (gam q.2.2) (gam q.2.1)) := by decide +kernel

def inDom (doms : List (List Int)) (t : List Int) : Bool := doms.any (fun d => t.all (d.contains ·))

def idx5 : List Int := [0, 1, 2, 3, 4]

/-- rank 3: on every tuple of {0..4}³ inside a domain window the value is the permutation sign
    (numerator = denominator · sign); the two windows are {1,2,3} and {0,1,2} -/
theorem c20_eps3 :
    eps3Dom = [[1, 2, 3], [0, 1, 2]] ∧ eps3Den ≠ 0 ∧
    ∀ i ∈ idx5, ∀ j ∈ idx5, ∀ k ∈ idx5, inDom eps3Dom [i, j, k] = true →
      eps3Num i j k = eps3Den * permSign [i, j, k] := by decide +kernel

/-- rank 4 on {0..4}⁴ with windows {1,2,3,4} and {0,1,2,3} -/
theorem c20_eps4 :
    eps4Dom = [[1, 2, 3, 4], [0, 1, 2, 3]] ∧ eps4Den ≠ 0 ∧
    ∀ i ∈ idx5, ∀ j ∈ idx5, ∀ k ∈ idx5, ∀ o ∈ idx5, inDom eps4Dom [i, j, k, o] = true →
      eps4Num i j k o = eps4Den * permSign [i, j, k, o] := by decide +kernel

/-- tuples outside both windows exist in {0..4}ⁿ.  That the functions raise on them is not stated here: the windows
    are those of the `if not (…): raise` guard, and the translator refuses a guard that does not raise -/
theorem c20_eps_rejects : inDom eps3Dom [0, 1, 3] = false ∧ inDom eps3Dom [4, 4, 4] = false ∧
    inDom eps4Dom [0, 1, 2, 4] = false := by decide +kernel

/-- the vjp body is literally  -g · ½ · (K_{|n-1|}(x) + K_{n+1}(x)) -/
theorem c20_kn_vjp_term : knVjp = .mul (.mul (.neg .g) .half) (.add .kAbsNm1 .kNp1) := by decide

/-- the value of a vjp term, given values for `g`, ½ and the three Bessel functions.  No theorem uses it: that the term
    is the derivative of `K_n` is checked numerically only (DESIGN.md, C20). -/
def KTerm.eval {R : Type} [Mul R] [Add R] [Neg R] (g h kAbs kM kP : R) : KTerm → R
  | .g => g | .half => h | .kAbsNm1 => kAbs | .kNm1 => kM | .kNp1 => kP
  | .neg a => -(a.eval g h kAbs kM kP)
  | .mul a b => a.eval g h kAbs kM kP * b.eval g h kAbs kM kP
  | .add a b => a.eval g h kAbs kM kP + b.eval g h kAbs kM kP

end PV
