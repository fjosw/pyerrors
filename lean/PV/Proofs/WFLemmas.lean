/-
  The C04 invariant (`Spec.wfC04`): it holds of a chain whose configuration list is in normal form, hence of what
  the constructor and `derived_observable` build.
-/
import PV.Proofs.MkObs
import PV.Proofs.DerivedLemmas
import PV.Spec.WF

namespace PV

variable {α : Type}

theorem two_le_length_of_mem_ne {β : Type} {l : List β} {a b : β} (ha : a ∈ l) (hb : b ∈ l) (hne : a ≠ b) :
    2 ≤ l.length := by
  match l, ha, hb with
  | [x], ha, hb => exact absurd ((List.mem_singleton.mp ha).trans (List.mem_singleton.mp hb).symm) hne
  | x :: y :: r, _, _ => exact Nat.le_add_left 2 r.length

theorem wfC04_iff {o : Obs α} :
    Spec.wfC04 o = true ↔ o.WF = true ∧ ∀ r ∈ o.reps, ∀ s n st, r.idl = .range s n st → 2 ≤ n := by
  simp only [Spec.wfC04, Bool.and_eq_true, List.all_eq_true]
  refine and_congr_right fun _ => forall₂_congr fun r _ => ?_
  cases r.idl <;> simp

theorem wfC04_reweighted (o : Obs α) (b : Bool) :
    Spec.wfC04 ({ o with reweighted := b } : Obs α) = Spec.wfC04 o := rfl

/-- the clauses of the invariant that concern one configuration list -/
def Idl.Normal (i : Idl) : Prop :=
  Idl.strictInc i.toList = true ∧
  match i with
  | .range _ n st => 0 < st ∧ 2 ≤ n
  | .list l => equallySpaced l = false

theorem Idl.normal_of {i : Idl} (hs : Idl.strictInc i.toList = true) (h2 : 2 ≤ i.len)
    (hiff : i.isRange = true ↔ equallySpaced i.toList = true) : i.Normal := by
  refine ⟨hs, ?_⟩
  cases i with
  | range s n st =>
    have hn : 2 ≤ n := by simpa [Idl.len, Idl.length_toList_range] using h2
    exact ⟨(Idl.strictInc_range_iff hn).mp hs, hn⟩
  | list l => exact Bool.eq_false_iff.mpr fun he => nomatch hiff.mpr he

theorem wfC04_of {o : Obs α} (hn : o.names.Pairwise (· < ·)) (hr : ∀ r ∈ o.reps, r.idl.Normal ∧ r.deltas.length = r.idl.len)
    (hcn : o.covNames.Pairwise (· < ·)) (hc : ∀ n ∈ o.covNames, n.contains '|' = false ∧ n ∉ o.names)
    (hs : ∀ c ∈ o.covs, c.cov.length = c.grad.length ∧ ∀ row ∈ c.cov, row.length = c.grad.length) :
    Spec.wfC04 o = true := by
  refine wfC04_iff.mpr ⟨Obs.wf_iff.mpr ⟨hn, fun r h => (hr r h).1.1, fun r h => (hr r h).2, fun r h => ?_, hcn, hc, hs⟩,
    fun r h s n st hi => ?_⟩
  · have := (hr r h).1.2
    generalize r.idl = i at this ⊢
    cases i
    exacts [this.1, this]
  · have := (hr r h).1.2
    simp only [hi] at this
    exact this.2

section mk
variable [Scalar α]

theorem mkRep_normal {t : String × Idl × List α} {r : Rep α} (h : mkRep t = .ok r)
    (hlen : 4 < t.2.2.length) (hstep : ∀ s n st, t.2.1 = .range s n st → st ≠ 0) :
    r.idl.Normal ∧ r.deltas.length = r.idl.len := by
  obtain ⟨n, i, s⟩ := t
  obtain ⟨i', hnorm, hl, rfl⟩ := mkRep_eq_ok.mp h
  refine ⟨?_, by simpa using hl⟩
  have h2 : 2 ≤ i'.len := by simp only at hlen; omega
  cases i with
  | range s n st =>
    obtain ⟨hst, rfl⟩ := Idl.normalise_range_eq_ok.mp hnorm
    have hn : 2 ≤ n := by simpa [Idl.len, Idl.length_toList_range] using h2
    have hpos : 0 < st := lt_of_le_of_ne hst (hstep s n st rfl).symm
    exact ⟨(Idl.strictInc_range_iff hn).mpr hpos, hpos, hn⟩
  | list l =>
    obtain ⟨j, hj, htl, hiff⟩ := Idl.normalise_list (Idl.strictInc_of_normalise hnorm)
    cases hnorm.symm.trans hj
    exact Idl.normal_of (htl ▸ Idl.strictInc_of_normalise hnorm) h2 (htl ▸ hiff)

end mk

theorem two_le_union {xs : List (Obs ℝ)} (hwf : ∀ x ∈ xs, x.WF = true) (hlen2 : ∀ x ∈ xs, ∀ q ∈ x.reps, 2 ≤ q.idl.len)
    {n : String} (hn : n ∈ newSampleNames xs) : 2 ≤ (Spec.unionCfgs xs n).length := by
  obtain ⟨x, hx, hnx⟩ := (mem_newSampleNames.mp hn).1
  obtain ⟨q, hq⟩ := Option.isSome_iff_exists.mp (Obs.rep?_isSome.mpr hnx)
  have hmem := (Obs.rep?_eq_some hq).1
  have hnd := ((Obs.wf_iff.mp (hwf x hx)).pairwise hmem).imp ne_of_lt
  exact (hlen2 x hx q hmem).trans (List.subperm_of_subset hnd fun c hc =>
    Spec.mem_unionCfgs.mpr ⟨x, hx, Spec.mem_cfgs.mpr ⟨q, hq, hc⟩⟩).length_le

end PV
