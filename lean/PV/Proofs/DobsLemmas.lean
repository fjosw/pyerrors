/-
  The dobs replica table (PV/Model/Dobs.lean): reading the column that the export writes for a chain against the
  merged configuration list is reading the chain's own numbers against its own configuration list.
-/
import PV.Model.Dobs

namespace PV
open Scalar
variable {α : Type} [Scalar α]

theorem dobsImport_cons (c : Int) (ms : List Int) (x : α) (col : List α) (v : α) :
    dobsImport (c :: ms) (x :: col) v
      = if isZero x then dobsImport ms col v else (c, x + v) :: dobsImport ms col v := by
  cases h : isZero x <;> simp [dobsImport, h]

theorem dobsColumn_cons_notin (ms : List Int) (c : Int) (x : α) (idl : List Int) (nums : List α)
    (h : c ∉ ms) : dobsColumn ms (c :: idl) (x :: nums) = dobsColumn ms idl nums :=
  List.map_congr_left fun c' hc' => by
    rw [List.zip_cons_cons, List.find?_cons_of_neg (by simpa using fun e : c = c' => h (e ▸ hc'))]

/-- induction on the derivation of `idl.Sublist merged`: a row of the merged list that the chain skips holds the marker
    and is skipped by the import, a row it keeps holds the chain's next number -/
theorem dobsImport_column (v : α) (hz : isZero (0 : α) = true) {merged idl : List Int} (nums : List α)
    (hnd : merged.Nodup) (hs : idl.Sublist merged) (hl : nums.length = idl.length) :
    dobsImport merged (dobsColumn merged idl nums) v = dobsImport idl nums v := by
  induction hs generalizing nums with
  | slnil => rfl
  | @cons idl ms c hs' ih =>
    obtain ⟨hc, hms⟩ := List.nodup_cons.mp hnd
    have hfind : (List.zip idl nums).find? (·.1 == c) = none :=
      List.find?_eq_none.mpr fun p hp => by
        simpa using fun e : p.1 = c => hc (hs'.subset (e ▸ (List.of_mem_zip hp).1))
    rw [dobsColumn, List.map_cons, ← dobsColumn, hfind, dobsImport_cons, if_pos hz]
    exact ih nums hms hl
  | @cons_cons idl ms c hs' ih =>
    obtain ⟨hc, hms⟩ := List.nodup_cons.mp hnd
    cases nums with
    | nil => cases hl
    | cons x nums =>
      rw [dobsColumn, List.map_cons, ← dobsColumn, List.zip_cons_cons, List.find?_cons_of_pos (by simp),
        dobsColumn_cons_notin ms c x idl nums hc, dobsImport_cons, dobsImport_cons, ih nums hms (Nat.succ.inj hl)]

end PV
