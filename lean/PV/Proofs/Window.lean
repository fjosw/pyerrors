/-
  The automatic-windowing search of the Gamma method: the loop of the model is `find?` on a range; it and the window
  of the specification both find the first lag with a negative criterion (`IsFirst`), of which there is only one.
  No law of `Scalar α` is used, so all of it holds for IEEE doubles as for ℝ.
-/
import PV.Spec.Wolff

namespace PV

def IsFirst (p : Nat → Prop) (lo hi W : Nat) : Prop :=
  lo ≤ W ∧ W ≤ hi ∧ (∀ m, lo ≤ m → m < W → ¬ p m) ∧ (W < hi → p W)

theorem IsFirst.unique {p : Nat → Prop} {lo hi W W' : Nat}
    (h : IsFirst p lo hi W) (h' : IsFirst p lo hi W') : W = W' := by
  obtain ⟨h1, h2, h3, h4⟩ := h
  obtain ⟨h1', h2', h3', h4'⟩ := h'
  rcases Nat.lt_trichotomy W W' with hlt | heq | hgt
  · exact absurd (h4 (by omega)) (h3' W h1 hlt)
  · exact heq
  · exact absurd (h4' (by omega)) (h3 W' h1' hgt)

variable {α : Type} [Scalar α]

theorem windowLoop_eq_find (gw : List α) (wmax fuel n : Nat) :
    windowLoop gw wmax fuel n
      = (List.range' n fuel).find? (fun m => gw.getD (m - 1) 0 < 0 ∨ m + 1 ≥ wmax) := by
  induction fuel generalizing n with
  | zero => rfl
  | succ f ih =>
    rw [windowLoop, List.range'_succ, List.find?_cons, ← ih]
    by_cases hc : gw.getD (n - 1) 0 < 0 ∨ n + 1 ≥ wmax
    · rw [if_pos hc, decide_eq_true hc]
    · rw [if_neg hc, decide_eq_false hc]

theorem windowLoop_bound {gw : List α} {wmax fuel n W : Nat} (h : windowLoop gw wmax fuel n = some W) :
    n ≤ W ∧ W < n + fuel := by
  rw [windowLoop_eq_find] at h
  simpa [List.mem_range'_1] using List.mem_of_find?_eq_some h

theorem windowLoop_isFirst (gw : List α) (wmax fuel n : Nat) (hsum : n + fuel = wmax) (hf : 1 ≤ fuel) :
    ∃ W, windowLoop gw wmax fuel n = some W ∧ IsFirst (fun m => gw.getD (m - 1) 0 < 0) n (wmax - 1) W := by
  rw [windowLoop_eq_find]
  cases hfind : (List.range' n fuel).find? (fun m => gw.getD (m - 1) 0 < 0 ∨ m + 1 ≥ wmax) with
  | none =>
    have := List.find?_range'_eq_none.mp hfind (wmax - 1) (by omega) (by omega)
    rw [Bool.not_eq_true', decide_eq_false_iff_not, not_or] at this
    omega
  | some W =>
    obtain ⟨hp, hmem, hall⟩ := List.find?_range'_eq_some.mp hfind
    simp only [decide_eq_true_eq, List.mem_range'_1, Bool.not_eq_eq_eq_not, Bool.not_true, decide_eq_false_iff_not,
      not_or] at hp hmem hall
    exact ⟨W, rfl, hmem.1, by omega, fun m h1 h2 => (hall m h1 h2).1, fun hlt => hp.resolve_right (by omega)⟩

theorem specWindow_isFirst (g : Nat → α) (wmax : Nat) (h : 2 ≤ wmax) :
    IsFirst (fun m => g m < 0) 1 (wmax - 1) (Spec.window g wmax) := by
  unfold Spec.window
  split
  · rename_i k hk
    obtain ⟨hp, hmem, hall⟩ := List.find?_range_eq_some.mp hk
    have hklt : k < wmax - 2 := List.mem_range.mp hmem
    refine ⟨by omega, by omega, fun m hm1 hm2 => ?_, fun _ => of_decide_eq_true hp⟩
    obtain ⟨j, rfl⟩ := Nat.exists_eq_add_one_of_ne_zero (Nat.ne_of_gt hm1)
    exact of_decide_eq_false ((Bool.not_eq_true' _).mp (hall j (by omega)))
  · rename_i hnone
    rw [List.find?_range_eq_none] at hnone
    refine ⟨by omega, Nat.le_refl _, fun m hm1 hm2 => ?_, fun h => by omega⟩
    obtain ⟨j, rfl⟩ := Nat.exists_eq_add_one_of_ne_zero (Nat.ne_of_gt hm1)
    exact of_decide_eq_false ((Bool.not_eq_true' _).mp (hnone j (by omega)))

end PV
