/-
  Property C02 — the Gamma-method estimate equals Wolff's estimator on every chain layout: the model `gammaMethod`
  against `Spec.gammaMethod` (written by configuration number), first the Γ table, then everything computed from it.
-/
import PV.Proofs.GammaTable
import PV.Proofs.RescaleLemmas

namespace PV
open Scalar

variable {α : Type} [Scalar α]

/-- C02 (window): the loop `for n in range(1, w_max): if g_w[n-1] < 0 or n >= w_max-1: break`
    stops at the first lag whose automatic-windowing criterion is negative, else at the largest
    admissible lag `w_max - 1` — for every `w_max ≥ 2`, every criterion sequence, every scalar type
    (in particular IEEE doubles: no law of arithmetic is used). -/
theorem c02_window (gw : List α) (wmax : Nat) (h : 2 ≤ wmax) :
    windowLoop gw wmax (wmax - 1) 1 = some (Spec.window (fun n => gw.getD (n - 1) 0) wmax) := by
  obtain ⟨W, hW, hfirst⟩ := windowLoop_isFirst gw wmax (wmax - 1) 1 (by omega) (by omega)
  have hspec := specWindow_isFirst (fun n => gw.getD (n - 1) 0) wmax h
  rw [hW, IsFirst.unique hfirst hspec]

/-- non-vacuity: a criterion sequence that turns negative at lag 3 -/
example : windowLoop ([1, 1, -1, 1, -1] : List Rat) 6 5 1 = some 3 := by decide


/-- C02 (δρ): the four Python slices of `_compute_drho(i)` line up with
    (1/N) Σ_{k=1}^{w_max-1-i} (ρ(i+k) + ρ(|i-k|) - 2 ρ(i) ρ(k))² for every `w_max` and every
    `1 ≤ i < w_max` — the two expressions are the same arithmetic term for term, so this holds
    for every scalar type. -/
theorem c02_drho_slices (rho : List α) (wmax i : Nat) (eN : α)
    (hlen : rho.length = wmax) (hi : 1 ≤ i) (hiw : i < wmax) :
    drhoSq rho wmax eN i = Spec.drhoSq (fun t => rho.getD t 0) wmax eN i :=
  drhoSq_eq_spec rho wmax i eN hlen hi

/-- well-formed chain for the Gamma method: strictly increasing configuration numbers, one fluctuation per
    configuration, at least one configuration, all distances multiples of the positive spacing `gap`,
    a `range` with positive step -/
def ChainOK (r : Rep ℝ) (gap : Int) : Prop :=
  0 < gap ∧ Idl.strictInc r.idl.toList = true ∧ r.deltas.length = r.idl.len ∧ 0 < r.idl.len ∧
  (∀ c ∈ r.idl.toList, (c - r.idl.first) % gap = 0) ∧
  (match r.idl with | .range _ _ st => 0 < st | .list _ => True)

/-- C02 (Γ by configuration number): entry `t` of `_calc_gamma` (expand to spacing `gap`,
    shift by `t`, dot product) is the sum over all pairs of configurations of the chain that
    are exactly `t·gap` apart of the products of their fluctuations. -/
theorem c02_gamma_pairs (r : Rep ℝ) (gap : Int) (wmax t : Nat) (h : ChainOK r gap) (ht : t < wmax) :
    (calcGamma r.deltas r.idl wmax gap).getD t 0 = Spec.gammaRep r gap t := by
  obtain ⟨hgap, hinc, hlen, hpos, hmod, _⟩ := h
  have hpw := Idl.strictInc_iff.mp hinc
  rw [← dot_shift_eq_gammaRep r gap hgap hpw hmod _ (expandDeltas_getD r gap hgap hpw hmod hlen hpos)
    (rLength_eq_expanded_length _ _ _ hgap hlen hpos (Idl.first_le_last hpw hpos)) t]
  rw [calcGamma, getD_map_range _ _ ht]

/-- C02 (pair counts): the same on a chain of ones, which is what the code divides by, counts the pairs -/
theorem c02_gamma_count (r : Rep ℝ) (gap : Int) (wmax t : Nat) (h : ChainOK r gap) (ht : t < wmax)
    (hones : r.deltas = List.replicate r.idl.len 1) :
    (calcGamma r.deltas r.idl wmax gap).getD t 0 = (Spec.pairsRep r gap t : ℝ) := by
  rw [c02_gamma_pairs r gap wmax t h ht]
  exact gammaRep_ones r gap t hones

section assembled
open PV.RealS PV.C02c

/-- **C02 (Γ table).**  The table the code accumulates (expanded fluctuations, shifted dot products, pair
    counts clamped at 1, summed over replicas) is Γ(t) by configuration number for every lag. -/
theorem c02_gamma_table (reps : List (Rep ℝ)) (gap : Int) (wmax : Nat) (h : ∀ r ∈ reps, ChainOK r gap) :
    gammaTable reps wmax gap = (List.range wmax).map (Spec.gamma reps gap) := by
  apply List.ext_getElem
  · rw [gammaTable_length, List.length_map, List.length_range]
  · intro t h1 h2
    have ht : t < wmax := by simpa using h2
    -- numerator: the pair sums; denominator: the same on chains of ones, the pair counts
    have hn : ∀ r ∈ reps, (calcGamma r.deltas r.idl wmax gap).getD t 0 = Spec.gammaRep r gap t :=
      fun r hr => c02_gamma_pairs r gap wmax t (h r hr) ht
    have hd : ∀ r ∈ reps, (calcGamma (List.replicate r.idl.len (1 : ℝ)) r.idl wmax gap).getD t 0
        = ((Spec.pairsRep r gap t : Nat) : ℝ) := fun r hr => by
      obtain ⟨hgap, hinc, hlen, hpos, hmod, hst⟩ := h r hr
      exact c02_gamma_count { r with deltas := List.replicate r.idl.len 1 } gap wmax t
        ⟨hgap, hinc, List.length_replicate, hpos, hmod, hst⟩ ht rfl
    simp only [gammaTable, ofNat_eq_lit, lit_eq, Nat.cast_zero, Nat.cast_one, List.getElem_zipWith,
      List.getElem_map, List.getElem_range]
    rw [List.getElem_eq_getD (0 : ℝ), List.getElem_eq_getD (0 : ℝ),
      foldl_addL_getD reps _ wmax (fun r _ => calcGamma_length _ _ _ _) t,
      foldl_addL_getD reps _ wmax (fun r _ => calcGamma_length _ _ _ _) t, List.map_congr_left hn,
      List.map_congr_left hd, ← natSum_cast reps (fun r => Spec.pairsRep r gap t), clamp_count, Spec.gamma, sum_eq,
      ofNatS_eq]

/-- **C02 (everything computed from the table).**  For every table of length `wmax ≥ 1` and all parameters:
    ρ, τ_int(W) with the clamp, its error, δρ, the automatic window, the tau_exp analysis, the S = 0 branch,
    the bias correction, the error and the error of the error computed by the model of the code are exactly
    what the specification prescribes. -/
theorem c02_analyse (fp : FpConsts ℝ) (ens : String) (eN : ℝ) (wmax : Nat) (G : List ℝ) (S tauExp nSigma : ℝ)
    (hlen : G.length = wmax) (hw : 1 ≤ wmax) :
    analyseGamma fp ens eN wmax G S tauExp nSigma = Spec.analyse fp ens eN wmax G S tauExp nSigma := by
  unfold analyseGamma Spec.analyse
  -- the names follow the `let`s of `analyseGamma` (PV/Model/Gamma.lean), then those of `Spec.analyse`, in their order
  extract_lets zero g0 rho nTau0 nTau nDtau0 nDtau drhoAt biasTau drho1 jp dv tauL gw Gf rhoL rhof tauRaw nTauS tauS
    dtauS drhoS biasS nDtauS stop dvS tauSS g W t dvW
  -- the arrays of the model are those of the specification; `δρ` agrees wherever it is evaluated (from lag 1 on)
  have hrholen : rho.length = wmax := by simp [rho, hlen]
  have hnTau : nTau = nTauS := nTauint_eq rho fp.half fp.eps _ wmax hrholen hw
  have hnDtau : nDtau = nDtauS := by
    simp only [nDtau, nDtau0, nDtauS, dtauS, tauS, ← hnTau]
    exact nDtauint_eq nTau _ _ wmax (by rw [hnTau]; simp [nTauS])
      (fun i t => t * 2 * Transc.sqrt (absS (ofNatS i + fp.half - t) / eN))
  have hdrho : ∀ i, 1 ≤ i → drhoAt i = drhoS i := fun i h1 =>
    congrArg Transc.sqrt (drhoSq_eq_spec rho wmax i eN hrholen h1)
  have hD : ∀ n, n < wmax → nDtauS.getD n 𝟘 = dtauS n := fun n hn => getD_map_range _ _ hn
  clear_value nTau nDtau
  subst hnTau hnDtau
  -- both sides branch on the same conditions, so branch by branch (`split` on a goal of this size costs more than
  -- the rest of the proof): zero variance, then tau_exp > 0, then S = 0
  refine ite_congr rfl (fun _ => rfl) fun _ => ?_
  refine ite_congr rfl (fun _ => ?_) fun _ => ?_
  · -- tau_exp: both sides search the same range with the same test
    refine ite_congr rfl (fun _ => rfl) fun hM => ?_
    have hstop : ∀ k ∈ List.range (wmax / 2 - 1),
        decide (rho.getD (k + 1) 𝟘 - nSigma * drhoAt (k + 1) < 𝟘 ∨ ((k + 1 : Nat) : Int) ≥ ((wmax / 2 : Nat) : Int) - 2)
          = stop (k + 1) := fun k _ => by rw [hdrho (k + 1) (by omega)]
    simp only [jp, drho1, zero]
    rw [drhoFilled_init, texpLoop_eq_find rho nSigma drhoAt wmax _ 1 le_rfl (by omega), find?_range'_one,
      List.find?_congr hstop]
    cases hf : List.find? (fun k => stop (k + 1)) (List.range (wmax / 2 - 1)) with
    | none => rfl
    | some k =>
      have hk : k + 1 + 1 < wmax := by
        have := List.mem_range.mp (List.mem_of_find?_eq_some hf)
        omega
      have e3 : List.map (fun j => rho.getD (j + 1) 𝟘 - nSigma * drhoAt (j + 1)) (List.range (k + 1))
          = List.map (fun j => rhof (j + 1) - nSigma * drhoS (j + 1)) (List.range (k + 1)) :=
        List.map_congr_left fun j _ => by rw [hdrho (j + 1) (by omega)]
      simp only [Option.map_some, pure, Except.pure, drhoFilled_congr drhoAt drhoS wmax _ hdrho, e3,
        drhoFilled_getD drhoS wmax (k + 1 + 1) (k + 1 + 1) (by omega) le_rfl hk, hD (k + 1) (by omega)]
      rfl
  refine ite_congr rfl (fun _ => rfl) fun _ => ?_
  by_cases hw1 : wmax ≤ 1
  · rw [if_pos hw1]
    obtain rfl : wmax = 1 := Nat.le_antisymm hw1 hw
    rfl
  -- automatic windowing: the criterion list of the model tabulates `g`, and `c02_window` relates the searches
  rw [if_neg hw1]
  have hgw : gw = (List.range (wmax - 1)).map (fun k => g (k + 1)) := by
    apply List.ext_getElem
    · simp only [gw, tauL, nTauS, List.length_map, List.length_zip, List.length_range, List.length_drop, Nat.min_self]
    · intro i h1 h2
      have hi : i < wmax - 1 := by rwa [List.length_map, List.length_range] at h2
      simp only [gw, List.getElem_map, List.getElem_zip, List.getElem_range, g, tauSS, tauS, tauL, List.getElem_drop]
      rw [List.getD_eq_getElem?_getD, Nat.add_comm i 1, List.getElem?_eq_getElem, Option.getD_some]
  have hwin : windowLoop gw wmax (wmax - 1) 1 = some W := by
    refine (c02_window gw wmax (Nat.lt_of_not_le hw1)).trans (congrArg some (window_congr _ g wmax fun n hn1 hn2 => ?_))
    rw [hgw, getD_map_range _ _ (by omega), Nat.sub_add_cancel hn1]
  have hb := windowLoop_bound hwin
  rw [hwin]
  have e1 : zero.set W (drhoAt W) = List.map (fun i => if i = W then drhoS i else 𝟘) (List.range wmax) := by
    apply List.ext_getElem
    · simp only [zero, List.length_set, List.length_replicate, List.length_map, List.length_range]
    · intro i h1 h2
      simp only [zero, List.getElem_set, List.getElem_replicate, List.getElem_map, List.getElem_range, eq_comm (a := W)]
      split
      · subst_vars
        exact hdrho _ hb.1
      · rfl
  simp only [pure, Except.pure, e1, hgw, ← List.map_take, List.take_range, Nat.min_eq_left (show W ≤ wmax - 1 by omega),
    hD W (by omega)]
  rfl

/-- **C02 (per ensemble): model = Wolff specification.**  Whenever the chains of the ensemble have a common
    spacing, are well-formed and the longest spans at least two positions of that spacing (`w_max ≥ 1`), the
    analysis the code performs is the specified estimator, for every number of replicas, every chain layout,
    every parameter choice. -/
theorem c02_ensemble (fp : FpConsts ℝ) (ens : String) (reps : List (Rep ℝ)) (gap : Int) (S tauExp nSigma : ℝ)
    (hgap : determineGap ens reps = .ok gap) (hok : ∀ r ∈ reps, ChainOK r gap)
    (hw : 1 ≤ Spec.wMax reps gap) :
    gammaEnsemble fp ens reps S tauExp nSigma
      = Spec.ensemble fp ens reps gap (Spec.wMax reps gap) S tauExp nSigma := by
  rw [gammaEnsemble_eq_analyse, C03b.ensemble_eq_analyse, hgap]
  simp only [Except.bind]
  show analyseGamma fp ens _ (Spec.wMax reps gap) (gammaTable reps (Spec.wMax reps gap) gap) S tauExp nSigma = _
  rw [c02_gamma_table reps gap _ hok]
  exact c02_analyse fp ens _ _ _ S tauExp nSigma (by simp) hw

/-- **C02: the model of `gamma_method` is the Wolff specification.**  For every observable whose ensembles
    have well-formed chains with a common spacing and `w_max ≥ 1` (any number of ensembles, replicas, covariance
    inputs; any layout: contiguous, strided, gapped, irregular; any S, tau_exp, N_sigma per ensemble), the whole
    result record of the model of the code - per ensemble τ_int, its error, the error, the error of the error, the
    window, ρ, δρ, the cumulative τ_int(W) arrays, and the total error with the covariance-input terms -
    equals the specification written by configuration number from the papers.  The executable model is what
    the harness compares with pyerrors on every generated case. -/
theorem c02_formulas (fp : FpConsts ℝ) (o : Obs ℝ) (p : GmParams ℝ)
    (h : ∀ e ∈ o.mcNames, ∀ gap, determineGap e (o.eContent e) = .ok gap →
      (∀ r ∈ o.eContent e, ChainOK r gap) ∧ 1 ≤ Spec.wMax (o.eContent e) gap) :
    gammaMethod fp o p = Spec.gammaMethod fp o p := by
  unfold gammaMethod Spec.gammaMethod
  have hm : o.mcNames.mapM (fun e => gammaEnsemble fp e (o.eContent e) (p.S e) (p.tauExp e) (p.nSigma e))
      = o.mcNames.mapM (fun e => do
          let reps := o.eContent e
          let gap ← determineGap e reps
          Spec.ensemble fp e reps gap (Spec.wMax reps gap) (p.S e) (p.tauExp e) (p.nSigma e)) := by
    refine mapM_congr_except _ _ _ fun e he => ?_
    cases hg : determineGap e (o.eContent e) with
    | error err =>
      rw [gammaEnsemble_eq_analyse, hg]
      simp only [hg, bind, Except.bind]
    | ok gap =>
      obtain ⟨hok, hw⟩ := h e he gap hg
      rw [c02_ensemble fp e (o.eContent e) gap _ _ _ hg hok hw]
      simp only [hg, bind, Except.bind]
  rw [hm]

/-- non-vacuity: an irregular chain with common spacing 2 satisfies `ChainOK` -/
example : ChainOK { name := "A|r1", idl := .list [1, 3, 5, 9], deltas := [1, -1, 2, -2], rvalue := 0 } 2 :=
  ⟨by decide, by decide, rfl, by decide, by decide, trivial⟩

end assembled

/-- **C02 (the window bound counts the positions of the expanded chain).**  `r_length`, from which
    `w_max = max(r_length) // 2` is taken, is the length of the array `_expand_deltas` builds for that replica on the
    ensemble's spacing - for ranges of any stride and for lists alike (a range of stride k·gap used to be counted as
    `len·k`, k - 1 positions that do not exist; repaired in /repo 98abf56, and the model has the one formula). -/
theorem c02_window_bound_counts_expanded_chain (d : List α) (idx : Idl) (gap : Int) (hg : 0 < gap)
    (hlen : d.length = idx.len) (hne : 0 < idx.len) (hle : idx.first ≤ idx.last) :
    ((expandDeltas d idx gap).length : Int) = rLength idx gap :=
  rLength_eq_expanded_length d idx gap hg hlen hne hle

/-- the witness of the repaired defect: `range(1, 41, 4)` next to a replica of stride 2 occupies 19 positions, not 20 -/
example : rLength (.range 1 10 4) 2 = 19 ∧ (Idl.range 1 10 4).first ≤ (Idl.range 1 10 4).last := by decide

end PV
