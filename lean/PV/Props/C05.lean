/-
  Property C05: reweighting, correlating and merging pair samples by configuration number (`reweight1`, `correlate`,
  `mergeObs` of PV/Model/Combine.lean).  The statements are in terms of `sampleAt`, the sample an observable carries on
  a configuration number of a chain, so that none mentions array positions.
-/
import PV.Props.C04

namespace PV

variable {α : Type} [Elem α]

/-- C05 (rejection): an observable carrying covariance inputs cannot be reweighted -/
theorem c05_reweight_rejects_covobs (w o : Obs α) (ac : Bool) (h : o.covs.length > 0) :
    ∃ e, reweight1 w o ac = .error e :=
  ⟨_, (C05.reweight1_eq w o ac).trans (if_pos h)⟩


section generic
variable {α : Type} [Scalar α]

/-- C05 (selection by configuration number): `_reduce_deltas` returns, for every configuration of
    the new list, the entry that the old list holds *at that configuration number* -/
theorem c05_reduce_lookup (d : List α) (old new : Idl) (d' : List α)
    (hold : Idl.strictInc old.toList = true) (hnew : Idl.strictInc new.toList = true)
    (h : reduceDeltas d old new = some d') :
    d'.length = new.len ∧
    ∀ k, k < new.len → ∃ j, old.pos? (new.toList.getD k 0) = some j ∧ d'[k]? = d[j]? :=
  C05.reduce_lookup d old new d' hold hnew h

/-- C05 (rejection): a configuration of the new list that the old list lacks makes the selection fail -/
theorem c05_reduce_rejects (d : List α) (old new : Idl)
    (hold : Idl.strictInc old.toList = true) (hnew : Idl.strictInc new.toList = true)
    (hbad : ∃ c ∈ new.toList, c ∉ old.toList) : reduceDeltas d old new = none := by
  obtain ⟨c, hc, hco⟩ := hbad
  refine Option.eq_none_iff_forall_ne_some.mpr fun d' h => ?_
  simp only [reduceDeltas, Option.ite_none_left_eq_some, bne_iff_ne, ne_eq, Decidable.not_not] at h
  obtain ⟨hlen, h⟩ := h
  split at h
  · rename_i hs
    exact hco (eq_of_beq hs ▸ hc)
  · have hlt := C05.filter_len_lt (Idl.strictInc_iff.mp hold) hc hco
    rw [← C05.map_fst_filter_zip old.toList d (fun c => new.toList.contains c) hlen, List.length_map] at hlt
    exact (Option.ite_none_left_eq_some.mp h).1 hlt
end generic


/-- C05 (flag): a reweighted result carries the flag -/
theorem c05_reweight_flag (w o r : Obs α) (ac : Bool) (h : reweight1 w o ac = .ok r) : r.reweighted = true := by
  obtain ⟨_, _, _, _, _, _, _, _, _, _, hdiv⟩ := C05.reweight1_ok h
  obtain ⟨_, _, rfl⟩ := C05.rwDiv_ok hdiv
  rfl

/-- C05 (rejection): a covariance input has no configurations that could be paired - neither the observable
    nor the weight may carry one (the part would otherwise be dropped silently) -/
theorem c05_reweight_rejects_covobs_either (w o : Obs α) (ac : Bool) (h : 0 < o.covs.length ∨ 0 < w.covs.length) :
    reweight1 w o ac = .error .covobs := by
  rw [C05.reweight1_eq]
  by_cases ho : o.covs.length > 0
  · rw [if_pos ho]
  · rw [if_neg ho, if_pos (h.resolve_left ho)]

/-- C05 (rejection): an observable with a configuration the weight lacks is refused -/
theorem c05_reweight_rejects_missing_config (w o : Obs α) (ac : Bool) (r : Rep α) (wr : Rep α)
    (hr : r ∈ o.reps) (hw : w.rep? r.name = some wr) (hbad : ∃ c ∈ r.idl.toList, c ∉ wr.idl.toList) :
    ∃ e, reweight1 w o ac = .error e := by
  refine exists_error_of_not_ok fun res h => ?_
  obtain ⟨wr', hw', hsub⟩ := (C05.reweight1_ok h).2.2.2.1 r hr
  obtain ⟨c, hc, hcw⟩ := hbad
  cases hw.symm.trans hw'
  exact hcw (hsub c hc)

/-- C05 (correlate, rejections): different chains or different configuration lists raise -/
theorem c05_correlate_rejects_names (a b : Obs α) (h : a.names ≠ b.names) : ∃ e, correlate a b = .error e :=
  exists_error_of_not_ok fun _ ho => h (C05.correlate_eq_ok.mp ho).2.1

theorem c05_correlate_rejects_idl (a b : Obs α) (ra rb : Rep α) (hz : (ra, rb) ∈ List.zip a.reps b.reps)
    (hbad : ra.idl.toList ≠ rb.idl.toList) : ∃ e, correlate a b = .error e :=
  exists_error_of_not_ok fun _ ho => hbad ((C05.correlate_eq_ok.mp ho).2.2.2.1 _ hz).2.1

/-- C05 (merge, rejection): a replica that occurs twice raises -/
theorem c05_merge_rejects_duplicate (l : List (Obs α))
    (hdup : ¬ (l.flatMap (fun o => o.names ++ o.covNames)).Nodup) : ∃ e, mergeObs l = .error e :=
  exists_error_of_not_ok fun _ ho => hdup (C05.mergeObs_ok ho).1

/-- C05 (correlate): on every configuration of every chain the sample of the result is the product
    of the two inputs' samples on that same configuration number -/
theorem c05_correlate_samples (a b o : Obs ℝ) (h : correlate a b = .ok o)
    (hwf : a.WF = true ∧ b.WF = true) :
    o.names = a.names ∧ o.reweighted = (a.reweighted || b.reweighted) ∧
    ∀ ra ∈ a.reps, ∀ c ∈ ra.idl.toList, ∃ x y,
      sampleAt a ra.name c = some x ∧ sampleAt b ra.name c = some y ∧ sampleAt o ra.name c = some (x * y) := by
  obtain ⟨_, hnames, _, hidl, o', hmk, rfl⟩ := C05.correlate_eq_ok.mp h
  have hwa := Obs.wf_iff.mp hwf.1
  have hwb := Obs.wf_iff.mp hwf.2
  have hlen : a.reps.length = b.reps.length := by simpa [Obs.names] using congrArg List.length hnames
  -- the chains of `a` are the first components of the rows of the table `zip a.reps b.reps`
  have hZ1 : (a.reps.zip b.reps).map (·.1) = a.reps := List.map_fst_zip hlen.le
  have hfst : ∀ {δ : Type} (f : Rep ℝ → δ), a.reps.map f = (a.reps.zip b.reps).map (fun p => f p.1) :=
    fun f => (congrArg (List.map f) hZ1).symm.trans List.map_map
  refine ⟨show o'.names = _ from mkObs_names_of_sorted hmk hwa.names, rfl, fun ra hra c hc => ?_⟩
  obtain ⟨p, hp, rfl⟩ := List.mem_map.mp (hZ1 ▸ hra)
  obtain ⟨hpa, hpb⟩ := List.of_mem_zip (a := p.1) (b := p.2) hp
  obtain ⟨k, x, hpos, hsa, hx⟩ := C05.sampleAt_input hwa hpa hc
  obtain ⟨k', y, hposb, hsb, hy⟩ := C05.sampleAt_input hwb hpb ((hidl p hp).2.1 ▸ hc)
  cases (Idl.pos?_congr ((hidl p hp).2.1) c ▸ hpos).symm.trans hposb
  rw [Obs.names, hfst Rep.name, hfst Rep.idl] at hmk
  exact ⟨x, y, hx, zip_map_eq hnames hp ▸ hy,
    C05.mkObs_sample hmk (hfst Rep.name ▸ hwa.names_nodup) hp hpos (by rw [List.getElem?_zipWith, hsa, hsb])⟩

/-- C05 (merge): every chain of an input is found in the result with the same sample on each of its configuration
    numbers, every chain of the result is a chain of some input, and the flag is inherited -/
theorem c05_merge_union (l : List (Obs ℝ)) (o : Obs ℝ) (h : mergeObs l = .ok o)
    (hwf : ∀ x ∈ l, x.WF = true) :
    (∀ x ∈ l, ∀ r ∈ x.reps, ∀ c ∈ r.idl.toList, ∃ s, sampleAt x r.name c = some s ∧ sampleAt o r.name c = some s) ∧
    (∀ n ∈ o.names, ∃ x ∈ l, n ∈ x.names) ∧ o.reweighted = l.any (·.reweighted) := by
  obtain ⟨hndall, _, o', hmk, rfl⟩ := C05.mergeObs_ok h
  simp only at hmk
  have hperm := Py.perm_sortBy (fun (a b : Rep ℝ) => decide (a.name ≤ b.name)) (l.flatMap (·.reps))
  have hmapname : (l.flatMap (·.reps)).map (·.name) = l.flatMap (·.names) := List.map_flatMap
  have hnd : ((Py.sortBy (fun (a b : Rep ℝ) => decide (a.name ≤ b.name)) (l.flatMap (·.reps))).map (·.name)).Nodup := by
    rw [(hperm.map (·.name)).nodup_iff, hmapname]
    exact (List.Sublist.flatMap_right l fun x _ => List.sublist_append_left x.names x.covNames).nodup hndall
  refine ⟨fun x hx r hr c hc => ?_, fun n hn => ?_, rfl⟩
  · obtain ⟨k, s, hpos, hs, hsx⟩ := C05.sampleAt_input (Obs.wf_iff.mp (hwf x hx)) hr hc
    exact ⟨s, hsx, C05.mkObs_sample hmk hnd (Py.mem_sortBy.mpr (List.mem_flatMap.mpr ⟨x, hx, hr⟩)) hpos hs⟩
  · have hn' : n ∈ o'.names := hn
    rw [mkObs_names hmk, Py.mem_sortBy, (hperm.map (·.name)).mem_iff, hmapname] at hn'
    exact List.mem_flatMap.mp hn'

/-- the quotient step of `reweight`: value and fluctuations of `wo / nrm` -/
theorem c05_reweight_quotient (wo nrm res : Obs ℝ) (h : C05.rwDiv wo nrm = .ok res)
    (hwf : wo.WF = true ∧ nrm.WF = true) :
    res.value = wo.value / nrm.value ∧ res.reweighted = true ∧
    ∀ n ∈ newSampleNames [wo, nrm], ∀ c ∈ Spec.unionCfgs [wo, nrm] n,
      res.delta? n c = some (Spec.delta [1 / nrm.value, -wo.value / nrm.value ^ 2] [wo, nrm] n c) := by
  obtain ⟨r, hr, rfl⟩ := C05.rwDiv_ok h
  refine ⟨?_, rfl, fun n hn c hc => ?_⟩
  · exact (c01_value _ _ _ _ _ hr).trans (c01_func_table _ _).2.2.2.1
  · refine (c01_delta _ _ _ _ _ (by simp [hwf.1, hwf.2]) rfl hr n hn c hc).trans ?_
    congr 2
    site_simp [List.map]
    norm_num

/-- C05 (reweight): an accepted `reweight(w, [o], all_configs=ac)` is the quotient ⟨w·o⟩ / ⟨w⟩:
    `wo` carries, on every configuration number of every chain of `o`, the product of the samples
    of `w` and `o` on that same configuration number (never by array position); the normalisation
    is `w` itself (`all_configs`) or `w` restricted to o's configurations; the result has value
    `wo.value / nrm.value`, the fluctuations of that quotient, and the reweighted flag. -/
theorem c05_reweight_formula (w o res : Obs ℝ) (ac : Bool) (h : reweight1 w o ac = .ok res)
    (hwf : w.WF = true ∧ o.WF = true) :
    ∃ wo nrm : Obs ℝ,
      wo.names = o.names ∧
      (∀ r ∈ o.reps, ∀ c ∈ r.idl.toList, ∃ x y, sampleAt w r.name c = some x ∧
        sampleAt o r.name c = some y ∧ sampleAt wo r.name c = some (x * y)) ∧
      (ac = true → nrm = w) ∧
      (ac = false → nrm.names = o.names ∧ ∀ r ∈ o.reps, ∀ c ∈ r.idl.toList, ∃ x,
        sampleAt w r.name c = some x ∧ sampleAt nrm r.name c = some x) ∧
      res.value = wo.value / nrm.value ∧ res.reweighted = true ∧
      ∀ n ∈ newSampleNames [wo, nrm], ∀ c ∈ Spec.unionCfgs [wo, nrm] n,
        res.delta? n c = some (Spec.delta [1 / nrm.value, -wo.value / nrm.value ^ 2] [wo, nrm] n c) := by
  obtain ⟨_, _, _, _, W, wo, nrm, hW, hmk, hnorm, hdiv⟩ := C05.reweight1_ok h
  have hww := Obs.wf_iff.mp hwf.1
  have hwo := Obs.wf_iff.mp hwf.2
  have hchain : ∀ r ∈ o.reps, ∀ c ∈ r.idl.toList, ∃ k x y, r.idl.pos? c = some k ∧ (W r)[k]? = some x ∧
      (Rep.samples r)[k]? = some y ∧ sampleAt w r.name c = some x ∧ sampleAt o r.name c = some y := by
    intro r hr c hc
    obtain ⟨k, y, hpos, hsy, hy⟩ := C05.sampleAt_input hwo hr hc
    obtain ⟨x, hx, hsx⟩ := C05.wred_aligned hww (hwo.pairwise hr) (hW r hr) hpos hc
    exact ⟨k, x, y, hpos, hx, hsy, hsx, hy⟩
  have hmkwf : ∀ {S} {o' : Obs ℝ}, mkObs S (o.reps.map (·.name)) (some (o.reps.map (·.idl))) = .ok o' → o'.WF = true :=
    fun hmk' => c04_wf_implies _ (c04_mk_wf_corrected _ _ _ _ hwo.step_ne_zero hmk')
  refine ⟨wo, nrm, mkObs_names_of_sorted hmk hwo.names, fun r hr c hc => ?_, fun e => by simpa [e] using hnorm,
    fun e => ?_, c05_reweight_quotient wo nrm res hdiv ⟨hmkwf hmk, ?_⟩⟩
  · obtain ⟨k, x, y, hpos, hx, hy, hsx, hsy⟩ := hchain r hr c hc
    exact ⟨x, y, hsx, hsy, C05.mkObs_sample hmk hwo.names_nodup hr hpos (by rw [List.getElem?_zipWith, hx, hy])⟩
  · rw [e] at hnorm
    refine ⟨mkObs_names_of_sorted hnorm hwo.names, fun r hr c hc => ?_⟩
    obtain ⟨k, x, _, hpos, hx, _, hsx, _⟩ := hchain r hr c hc
    exact ⟨x, hsx, C05.mkObs_sample hnorm hwo.names_nodup hr hpos hx⟩
  · cases ac
    · exact hmkwf hnorm
    · exact hnorm ▸ hwf.1


end PV
