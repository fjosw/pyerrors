/-
  The executable model of `covariance` (PV/Model/Cov.lean).  `|element| ≤ number of shared ensembles` rests on
  Cauchy–Schwarz for the list inner product `dot`, whatever the lengths, and the triangle inequality over a list of
  terms.  For observables that live on one common chain the element is the Pearson formula and the matrix of the model
  is the normalised Gram matrix of their fluctuations: the bridge from the list model to Mathlib matrices, from which
  positive semidefiniteness follows (PV/Props/C06Alg.lean: `c06_gram_psd`, `c06_rescale_psd`).
-/
import PV.Model.Cov
import PV.Proofs.RealScalar
import PV.Proofs.Basic
import PV.Proofs.ObsLemmas
import Mathlib.Data.List.GetD

namespace PV.C06c
open Scalar PV.RealS Matrix

theorem dot_sq_le (a b : List ℝ) : dot a b ^ 2 ≤ dot a a * dot b b := by
  have ha := le_max_left a.length b.length
  have hb := le_max_right a.length b.length
  rw [C06m.dot_eq_sum _ a b ha hb, C06m.dot_eq_sum _ a a ha ha, C06m.dot_eq_sum _ b b hb hb]
  simpa only [sq] using Finset.sum_mul_sq_le_sq_mul_sq Finset.univ _ _

theorem dot_comm : ∀ a b : List ℝ, dot a b = dot b a := fun a b => by
  have ha := le_max_left a.length b.length
  have hb := le_max_right a.length b.length
  rw [C06m.dot_eq_sum _ a b ha hb, C06m.dot_eq_sum _ b a hb ha]
  exact Finset.sum_congr rfl fun _ _ => mul_comm _ _

theorem abs_sum_map_le {β : Type} (f g : β → ℝ) (l : List β) (h : ∀ e ∈ l, |f e| ≤ g e) :
    |(l.map f).sum| ≤ (l.map g).sum :=
  (List.le_sum_of_subadditive (abs : ℝ → ℝ) abs_zero.le abs_add_le _).trans
    (by rw [List.map_map]; exact List.sum_le_sum h)

/-! ### `covElement` of observables with one chain -/

structure OnChain (n : String) (idl : Idl) (o : Obs ℝ) : Prop where
  nocov : o.covs = []
  rep : ∃ r, o.reps = [r] ∧ r.name = n ∧ r.idl = idl ∧ r.deltas.length = idl.len

def fl (o : Obs ℝ) : List ℝ := (o.reps.map (·.deltas)).flatten

theorem fl_of {o : Obs ℝ} {r : Rep ℝ} (h : o.reps = [r]) : fl o = r.deltas := by simp [fl, h]

theorem fl_length {n : String} {idl : Idl} {o : Obs ℝ} (h : OnChain n idl o) : (fl o).length = idl.len := by
  obtain ⟨r, hr, _, _, hl⟩ := h.rep
  rw [fl_of hr, hl]

theorem mcNames_single {o : Obs ℝ} {r : Rep ℝ} (h : o.reps = [r]) : o.mcNames = [Py.ensOf r.name] := by
  rw [Obs.mcNames, Obs.names, h]
  rfl

theorem eContent_single {o : Obs ℝ} {r : Rep ℝ} (h : o.reps = [r]) : o.eContent (Py.ensOf r.name) = [r] := by
  have hp := Obs.chains_perm o
  rw [mcNames_single h, List.flatMap_singleton, h] at hp
  exact List.perm_singleton.mp hp

theorem filterMap_eq_of_getElem? {β γ : Type} (f : β → Option γ) : ∀ (l : List β) (l' : List γ),
    l'.length = l.length → (∀ m (h : m < l.length), f l[m] = l'[m]?) → l.filterMap f = l'
  | [], [], _, _ => rfl
  | a :: l, b :: l', hl, h => by
    have h0 : f a = some b := h 0 (Nat.zero_lt_succ _)
    rw [List.filterMap_cons, h0]
    exact congrArg (b :: ·) (filterMap_eq_of_getElem? f l l' (Nat.succ.inj hl) fun m hm => h (m + 1) (Nat.succ_lt_succ hm))

theorem intersectCfgs_self (i : Idl) : intersectCfgs i i = i.toList :=
  List.filter_eq_self.mpr fun c hc => by simpa using hc

theorem restrict_self (r : Rep ℝ) (hp : r.idl.toList.Pairwise (· < ·)) (hl : r.deltas.length = r.idl.len) :
    restrictTo r r.idl.toList = r.deltas :=
  filterMap_eq_of_getElem? _ _ _ hl fun m hm => by simp only [Idl.pos?_getElem hp hm]

/-- the Pearson formula on the common configurations `cf`; also for `cf = []`, where the model returns 0 and so does
    `0 / 0` -/
theorem covElement_single {o1 o2 : Obs ℝ} {r1 r2 : Rep ℝ} (h1 : o1.reps = [r1]) (h2 : o2.reps = [r2])
    (hc : o1.covs = []) (hn : r2.name = r1.name) {cf : List Int} (hcf : intersectCfgs r1.idl r2.idl = cf) :
    covElement o1 o2 = dot (restrictTo r1 cf) (restrictTo r2 cf)
      / Real.sqrt (dot (restrictTo r1 cf) (restrictTo r1 cf) * dot (restrictTo r2 cf) (restrictTo r2 cf)) := by
  have hany : (o1.names ++ o1.covNames).any (fun m => (o2.names ++ o2.covNames).contains m) = true := by
    simp [Obs.names, h1, h2, hn]
  have hfind : List.find? (fun x => x.name == r1.name) [r2] = some r2 := by simp [hn]
  -- one ensemble, one pair of chains
  simp only [covElement, hany, Bool.not_true, Bool.false_eq_true, if_false, mcNames_single h1, mcNames_single h2, hn, hc,
    List.filterMap_nil, List.contains_cons, BEq.rfl, Bool.true_or, List.filter_cons_of_pos, List.filter_nil,
    List.map_cons, List.map_nil, eContent_single h1, hn ▸ eContent_single h2, List.filterMap_cons, hfind, Option.map_some,
    hcf, sum_eq, List.sum_cons, List.sum_nil, add_zero, ofNat_eq_lit, lit_eq, Nat.cast_zero, ite_isZero_div]
  cases hemp : cf.isEmpty
  · simp only [Bool.false_eq_true, if_false, List.map_cons, List.map_nil, List.sum_cons, List.sum_nil, add_zero]
    rfl
  · rw [List.isEmpty_iff.1 hemp]
    simp [restrictTo, C06m.dot_nil_left]

theorem covElement_onChain {n : String} {idl : Idl} (hp : idl.toList.Pairwise (· < ·))
    {o1 o2 : Obs ℝ} (h1 : OnChain n idl o1) (h2 : OnChain n idl o2) :
    covElement o1 o2 = dot (fl o1) (fl o2) / Real.sqrt (dot (fl o1) (fl o1) * dot (fl o2) (fl o2)) := by
  obtain ⟨r1, hr1, rfl, rfl, hl1⟩ := h1.rep
  obtain ⟨r2, hr2, hn2, hi2, hl2⟩ := h2.rep
  rw [fl_of hr1, fl_of hr2, covElement_single hr1 hr2 h1.nocov hn2 (by rw [hi2, intersectCfgs_self]),
    restrict_self r1 hp hl1, ← hi2, restrict_self r2 (hi2 ▸ hp) (hi2 ▸ hl2)]

/-! ### entry (i, j) of `covarianceMatrix` -/

/-- the default of the lookup is never used; needed because the model's `default : Obs ℝ` and the one a statement
    about ℝ elaborates to come from different `Inhabited ℝ` instances -/
theorem covElement_getD_default {obs : List (Obs ℝ)} {a b : Nat} (ha : a < obs.length) (hb : b < obs.length) (d d' : Obs ℝ) :
    covElement (obs.getD (min a b) d) (obs.getD (max a b) d)
      = covElement (obs.getD (min a b) d') (obs.getD (max a b) d') := by
  simp only [List.getD_eq_getElem _ _ (min_lt_iff.2 (.inl ha)), List.getD_eq_getElem _ _ (max_lt ha hb)]

theorem covMatrix_entry {obs : List (Obs ℝ)} (dv : List ℝ) (correlation : Bool) {i j : Nat}
    (hi : i < obs.length) (hj : j < obs.length) (d : Obs ℝ) :
    ((covarianceMatrix obs dv correlation).getD i []).getD j 0 =
      (let el := fun (a b : Nat) => covElement (obs.getD (min a b) d) (obs.getD (max a b) d)
       let c := el i j / Real.sqrt (el i i) / Real.sqrt (el j j)
       if correlation then c else dv.getD i 0 * c * dv.getD j 0) := by
  simp only [covarianceMatrix, getD_map_range _ _ hi, getD_map_range _ _ hj, covElement_getD_default hi hj _ d,
    covElement_getD_default hi hi _ d, covElement_getD_default hj hj _ d, ofNat_eq_lit, lit_eq, Nat.cast_zero]
  rfl

noncomputable def X (obs : List (Obs ℝ)) (L : Nat) : Matrix (Fin obs.length) (Fin L) ℝ :=
  fun i k => (fl (obs.getD i default)).getD k 0

noncomputable def dinv (obs : List (Obs ℝ)) : Fin obs.length → ℝ :=
  fun i => 1 / Real.sqrt (dot (fl (obs.getD i default)) (fl (obs.getD i default)))

noncomputable def modelM (obs : List (Obs ℝ)) (dv : List ℝ) (correlation : Bool) : Matrix (Fin obs.length) (Fin obs.length) ℝ :=
  fun i j => ((covarianceMatrix obs dv correlation).getD i []).getD j 0

theorem cov_is_rescaled (obs : List (Obs ℝ)) (dv : List ℝ) :
    modelM obs dv false = diagonal (fun i : Fin obs.length => dv.getD i 0) * modelM obs dv true
      * diagonal (fun i : Fin obs.length => dv.getD i 0) := by
  ext i j
  rw [Matrix.mul_diagonal, Matrix.diagonal_mul, modelM, modelM,
    covMatrix_entry dv false i.isLt j.isLt default, covMatrix_entry dv true i.isLt j.isLt default]
  rfl

theorem corr_entry {n : String} {idl : Idl} (hp : idl.toList.Pairwise (· < ·)) {obs : List (Obs ℝ)} (dv : List ℝ)
    (hall : ∀ o ∈ obs, OnChain n idl o ∧ 0 < dot (fl o) (fl o)) (i j : Fin obs.length) :
    modelM obs dv true i j
      = dot (fl (obs.getD i default)) (fl (obs.getD j default))
        / (Real.sqrt (dot (fl (obs.getD i default)) (fl (obs.getD i default)))
           * Real.sqrt (dot (fl (obs.getD j default)) (fl (obs.getD j default)))) := by
  have hmem : ∀ k : Fin obs.length, obs.getD k default ∈ obs := fun k => by
    rw [List.getD_eq_getElem _ _ k.isLt]; exact List.getElem_mem _
  have hel : ∀ a b : Fin obs.length, covElement (obs.getD (min a.val b.val) default) (obs.getD (max a.val b.val) default)
      = dot (fl (obs.getD a default)) (fl (obs.getD b default))
        / Real.sqrt (dot (fl (obs.getD a default)) (fl (obs.getD a default)) * dot (fl (obs.getD b default)) (fl (obs.getD b default))) := by
    intro a b
    rcases le_total a.val b.val with h | h
    · rw [Nat.min_eq_left h, Nat.max_eq_right h]
      exact covElement_onChain hp (hall _ (hmem a)).1 (hall _ (hmem b)).1
    · rw [Nat.min_eq_right h, Nat.max_eq_left h, covElement_onChain hp (hall _ (hmem b)).1 (hall _ (hmem a)).1,
        dot_comm, mul_comm]
  have hself : ∀ a : Fin obs.length, covElement (obs.getD (min a.val a.val) default) (obs.getD (max a.val a.val) default) = 1 := by
    intro a
    have hpos := (hall _ (hmem a)).2
    rw [hel a a, Real.sqrt_mul_self hpos.le, div_self hpos.ne']
  rw [modelM, covMatrix_entry dv true i.isLt j.isLt default]
  simp only [if_true, hself i, hself j, hel i j]
  rw [Real.sqrt_one, div_one, div_one, Real.sqrt_mul (hall _ (hmem i)).2.le]

end PV.C06c
