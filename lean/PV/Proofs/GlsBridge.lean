/-
  The list-of-lists matrices of PV/Model/Gls.lean as Mathlib matrices (`toM`, `toV`, for a matrix that is `Shaped`):
  `dotR`, row `i` of a shaped matrix, then `mulVec`, `transpose`, `matMul` and the normal matrix are Mathlib's; what
  the checked solver returns, column by column, is a solution of the matrix equation; the data sets of a combined fit
  are stacked by Mathlib's insertion sort on the keys.
-/
import Mathlib.LinearAlgebra.Matrix.NonsingularInverse
import PV.Model.Gls
import PV.Proofs.Basic
import Mathlib.Data.List.GetD
import Mathlib.Data.String.Basic

namespace PV.Gls
open Matrix

def Shaped (A : Mat) (m n : Nat) : Prop := A.length = m ∧ ∀ r ∈ A, r.length = n
def toM (A : Mat) (m n : Nat) : Matrix (Fin m) (Fin n) ℚ := fun i j => (A.getD i []).getD j 0
def toV (x : List ℚ) (n : Nat) : Fin n → ℚ := fun j => x.getD j 0

theorem dotR_eq_sum (a b : List ℚ) : dotR a b = (List.zipWith (· * ·) a b).sum :=
  List.sum_eq_foldl.symm

theorem dotR_eq : ∀ (n : Nat) (a b : List ℚ), a.length = n → b.length = n →
    dotR a b = ∑ j : Fin n, a.getD j 0 * b.getD j 0
  | 0, [], _, _, _ => rfl
  | n + 1, x :: a, y :: b, ha, hb => by
    rw [dotR_eq_sum, List.zipWith_cons_cons, List.sum_cons, ← dotR_eq_sum,
      dotR_eq n a b (Nat.succ.inj ha) (Nat.succ.inj hb), Fin.sum_univ_succ]
    rfl

theorem Shaped.getD_map {β : Type} {A : Mat} {m n : Nat} (hA : Shaped A m n) (f : List ℚ → β) (d : β) (i : Fin m) :
    (A.map f).getD i d = f (A.getD i []) :=
  getD_map_getD f (hA.1 ▸ i.2) d []

theorem Shaped.length_getD {A : Mat} {m n : Nat} (hA : Shaped A m n) (i : Fin m) : (A.getD i []).length = n := by
  have hi : (i : Nat) < A.length := hA.1 ▸ i.2
  rw [List.getD_eq_getElem _ _ hi]
  exact hA.2 _ (List.getElem_mem hi)

/-! ### `mulVec`, `transpose`, `matMul` -/

theorem toV_mulVec {A : Mat} {x : List ℚ} {m n : Nat} (hA : Shaped A m n) (hx : x.length = n) :
    toV (mulVec A x) m = toM A m n *ᵥ toV x n := by
  funext i
  rw [toV, mulVec, hA.getD_map, dotR_eq n _ x (hA.length_getD i) hx]
  rfl

theorem transpose_shaped {A : Mat} {m n : Nat} (hA : Shaped A m n) (hm : 1 ≤ m) :
    Shaped (transpose A) n m ∧ toM (transpose A) n m = (toM A m n)ᵀ := by
  obtain ⟨r, rest, rfl⟩ := List.exists_cons_of_length_pos (hA.1 ▸ hm : 0 < A.length)
  have hrn : r.length = n := hA.2 r List.mem_cons_self
  refine ⟨⟨by simp [transpose, hrn], List.forall_mem_map.2 fun _ _ => (List.length_map _).trans hA.1⟩, ?_⟩
  funext j i
  rw [toM, transpose, getD_map_range _ _ (hrn ▸ j.2)]
  -- a row beyond the last counts as `[]`, whose entries count as 0
  exact List.getD_map _ [] _

theorem matMul_shaped {A B : Mat} {m n p : Nat} (hA : Shaped A m n) (hB : Shaped B n p) (hn : 1 ≤ n) :
    Shaped (matMul A B) m p ∧ toM (matMul A B) m p = toM A m n * toM B n p := by
  obtain ⟨hBt, hBtM⟩ := transpose_shaped hB hn
  refine ⟨⟨by simp [matMul, hA.1], List.forall_mem_map.2 fun _ _ => (List.length_map _).trans hBt.1⟩, ?_⟩
  funext i j
  rw [toM, matMul, hA.getD_map, hBt.getD_map, dotR_eq n _ _ (hA.length_getD i) (hBt.length_getD j)]
  -- row `i` of `A` times row `j` of the transposed `B`
  exact congrArg (toM A m n i ⬝ᵥ ·) (congrFun hBtM j)

theorem normal_shaped {A W : Mat} {m n : Nat} (hA : Shaped A m n) (hW : Shaped W m m) (hm : 1 ≤ m) :
    Shaped (atw A W) n m ∧ toM (atw A W) n m = (toM A m n)ᵀ * toM W m m ∧
    Shaped (normalMat A W) n n ∧ toM (normalMat A W) n n = (toM A m n)ᵀ * toM W m m * toM A m n := by
  obtain ⟨hAt, hAtM⟩ := transpose_shaped hA hm
  obtain ⟨hB, hBM⟩ := matMul_shaped hAt hW hm
  obtain ⟨hN, hNM⟩ := matMul_shaped hB hA hm
  rw [hAtM] at hBM
  rw [hBM] at hNM
  exact ⟨hB, hBM, hN, hNM⟩

/-! ### the checked solver -/

theorem solveChecked_sound {A : Mat} {b x : List ℚ} (h : solveChecked A b = some x) :
    mulVec A x = b ∧ x.length = A.length := by
  unfold solveChecked at h
  split at h
  · cases h
  · obtain ⟨hc, hx⟩ := Option.ite_none_right_eq_some.1 h
    cases hx
    simpa [and_comm] using hc

theorem gls_eq_some {A W : Mat} {y p : List ℚ} {S : Mat} (h : gls A W y = some (p, S)) :
    solveChecked (normalMat A W) (mulVec (atw A W) y) = some p ∧
    ∃ cols, (transpose (atw A W)).mapM (solveChecked (normalMat A W)) = some cols ∧ S = transpose cols := by
  unfold gls at h
  simp only at h
  split at h
  · cases h
  rename_i p' hp
  split at h
  · cases h
  rename_i cols hcols
  cases h
  exact ⟨hp, cols, hcols, rfl⟩

theorem iftSens_eq_some {H M X : Mat} (h : iftSens H M = some X) :
    ∃ cols, (transpose M).mapM (fun col => solveChecked H (col.map (-·))) = some cols ∧ X = transpose cols := by
  unfold iftSens at h
  split at h
  · cases h
  rename_i cols hcols
  cases h
  exact ⟨cols, hcols, rfl⟩

/-- the column-by-column solves, transposed, solve `N X = f B`; `f` is `id` for `gls` and negation for `iftSens` -/
theorem mul_toM_transpose (f : ℚ → ℚ) {N B cols : Mat} {n k : Nat} (hN : Shaped N n n) (hB : Shaped B n k)
    (hn : 1 ≤ n) (hk : 1 ≤ k)
    (h : (transpose B).mapM (fun col => solveChecked N (col.map f)) = some cols) :
    toM N n n * toM (transpose cols) n k = (toM B n k).map f := by
  obtain ⟨hBt, hBtM⟩ := transpose_shaped hB hn
  have hF := (mapM_eq_some_forall₂.mp h).imp fun _ _ => solveChecked_sound
  have hcs : Shaped cols k n := ⟨hF.length_eq.symm.trans hBt.1, fun s hs => by
    obtain ⟨_, _, _, hlen⟩ := hF.exists_of_mem_right hs
    exact hlen.trans hN.1⟩
  rw [(transpose_shaped hcs hk).2]
  ext i j
  have hsol : cols.map (mulVec N) = (transpose B).map (·.map f) := hF.flip.map_eq fun _ _ h => h.1
  -- entry `i` of the system solved for column `j`
  have e := congrArg (fun R : Mat => toM R k n j i) hsol
  rw [toM, toM, hcs.getD_map, hBt.getD_map, getD_map_getD f ((hBt.length_getD j).symm ▸ i.2) 0 0] at e
  exact ((congrFun (toV_mulVec hN (hcs.length_getD j)) i).symm.trans e).trans
    (congrArg f (congrFun (congrFun hBtM j) i))

/-! ### assembling the problem: data sets stacked by key -/

theorem insertByKey_eq (b : Block) : ∀ l, insertByKey b l = l.orderedInsert (fun x y => x.key ≤ y.key) b
  | [] => rfl
  | c :: cs => by rw [insertByKey, List.orderedInsert_cons, insertByKey_eq b cs]

theorem sortBlocks_eq (bs : List Block) : sortBlocks bs = bs.reverse.insertionSort (fun x y => x.key ≤ y.key) := by
  rw [sortBlocks, List.foldl_eq_foldr_reverse]
  induction bs.reverse with
  | nil => rfl
  | cons b l ih => rw [List.foldr_cons, ih, insertByKey_eq, List.insertionSort_cons]

/-- `hnd`: among blocks with equal keys the order of the result depends on the order handed over (dictionary keys are
    distinct) -/
theorem sortBlocks_perm {bs bs' : List Block} (hp : bs.Perm bs') (hnd : (bs.map (·.key)).Nodup) :
    sortBlocks bs = sortBlocks bs' := by
  have : Std.Total (fun x y : Block => x.key ≤ y.key) := ⟨fun a b => le_total a.key b.key⟩
  have : IsTrans Block (fun x y => x.key ≤ y.key) := ⟨fun _ _ _ => le_trans⟩
  have hs : ∀ l : List Block, (l.reverse.insertionSort (fun x y => x.key ≤ y.key)).Perm l := fun l =>
    (List.perm_insertionSort _ _).trans (List.reverse_perm _)
  rw [sortBlocks_eq, sortBlocks_eq]
  have h1 := (hs bs).trans (hp.trans (hs bs').symm)
  have hnd' := ((hs bs).map (·.key)).nodup_iff.mpr hnd
  refine List.Perm.eq_of_pairwise ?_ (List.pairwise_insertionSort _ _) (List.pairwise_insertionSort _ _) h1
  intro a b ha hb hab hba
  exact List.inj_on_of_nodup_map hnd' ha (h1.symm.subset hb) (le_antisymm hab hba)

end PV.Gls
