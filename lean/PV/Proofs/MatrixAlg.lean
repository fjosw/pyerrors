/-
  Matrix algebra (Mathlib only) shared by PV/Props/C06Alg, C07Alg, C08Alg and by the property theorems about the
  executable models (PV/Props/C06, C07, C08): a nonsingular system has exactly one solution, and how a bilinear form
  `u ⬝ᵥ C *ᵥ v` behaves under transposition and congruence.
-/
import Mathlib.Data.Real.Basic
import Mathlib.LinearAlgebra.Matrix.NonsingularInverse
import Mathlib.LinearAlgebra.Matrix.DotProduct
import Mathlib.Tactic.Positivity

namespace PV.MatrixAlg
open Matrix

section linsolve
variable {n m : Type*} [Fintype n] [DecidableEq n] {R : Type*} [CommRing R]

theorem mul_eq_iff_eq_inv_mul {A : Matrix n n R} (hA : IsUnit A.det) (X B : Matrix n m R) :
    A * X = B ↔ X = A⁻¹ * B :=
  ⟨fun h => by rw [← h, nonsing_inv_mul_cancel_left _ _ hA], fun h => by rw [h, mul_nonsing_inv_cancel_left _ _ hA]⟩

theorem mulVec_eq_iff_eq_inv_mulVec {A : Matrix n n R} (hA : IsUnit A.det) (x b : n → R) :
    A *ᵥ x = b ↔ x = A⁻¹ *ᵥ b :=
  ⟨fun h => by rw [← h, mulVec_mulVec, nonsing_inv_mul _ hA, one_mulVec],
   fun h => by rw [h, mulVec_mulVec, mul_nonsing_inv _ hA, one_mulVec]⟩

end linsolve

section bilinear
variable {m n : Type*} [Fintype m] [Fintype n] {R : Type*} [CommSemiring R]

theorem bilin_transpose (C : Matrix m n R) (g : m → R) (h : n → R) : g ⬝ᵥ C *ᵥ h = h ⬝ᵥ Cᵀ *ᵥ g := by
  rw [mulVec_transpose, dotProduct_mulVec, dotProduct_comm]

theorem bilin_symm {W : Matrix n n R} (hW : Wᵀ = W) (u v : n → R) : u ⬝ᵥ W *ᵥ v = v ⬝ᵥ W *ᵥ u := by
  rw [bilin_transpose, hW]

theorem bilin_conj (A : Matrix m n R) (C : Matrix m m R) (v w : n → R) :
    v ⬝ᵥ (Aᵀ * C * A) *ᵥ w = (A *ᵥ v) ⬝ᵥ C *ᵥ (A *ᵥ w) := by
  rw [← mulVec_mulVec, ← mulVec_mulVec, dotProduct_mulVec v Aᵀ, vecMul_transpose]

omit [Fintype n] in
theorem gram_isSymm (L : Matrix m n R) : (Lᵀ * L).IsSymm :=
  transpose_mul _ _

theorem gram_quadratic (L : Matrix m n R) (d : n → R) : d ⬝ᵥ (Lᵀ * L) *ᵥ d = (L *ᵥ d) ⬝ᵥ (L *ᵥ d) := by
  rw [← mulVec_mulVec, dotProduct_mulVec, vecMul_transpose]

end bilinear

theorem dotProduct_self_nonneg' {n : Type*} [Fintype n] (v : n → ℝ) : 0 ≤ v ⬝ᵥ v :=
  Finset.sum_nonneg fun i _ => mul_self_nonneg (v i)

/-- also for `D = 0`, where `N = 0` and real division gives `0` -/
theorem abs_div_le_one {N D : ℝ} (h : |N| ≤ D) : |N / D| ≤ 1 := by
  have hD := (abs_nonneg N).trans h
  rw [abs_div, abs_of_nonneg hD]
  exact div_le_one_of_le₀ h hD

theorem transpose_fin_two {R : Type*} (a b c d : R) : (!![a, b; c, d])ᵀ = !![a, c; b, d] :=
  Matrix.eta_fin_two _

/-! ### the symmetric positive semidefinite matrix of the non-vacuity examples: `2x² + 2xy + 2y² = x² + y² + (x+y)²` -/

theorem ex_isSymm : (!![2, 1; 1, 2] : Matrix (Fin 2) (Fin 2) ℝ).IsSymm :=
  transpose_fin_two 2 1 1 2

theorem ex_psd (v : Fin 2 → ℝ) : 0 ≤ v ⬝ᵥ (!![2, 1; 1, 2] : Matrix (Fin 2) (Fin 2) ℝ) *ᵥ v := by
  have : v ⬝ᵥ (!![2, 1; 1, 2] : Matrix (Fin 2) (Fin 2) ℝ) *ᵥ v = v 0 ^ 2 + v 1 ^ 2 + (v 0 + v 1) ^ 2 := by
    simp only [vec2_dotProduct, mulVec, of_apply, cons_val_zero, cons_val_one]
    ring
  rw [this]
  positivity

end PV.MatrixAlg
