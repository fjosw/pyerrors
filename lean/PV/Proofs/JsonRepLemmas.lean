/-
  The replica table of the json format (PV/Model/JsonRep.lean) at ℝ: column `j` of the encoded rows is the
  fluctuation list of observable `j` shifted by `r_j - v_j`; the offset the reader subtracts is the mean of that
  column, so decoding returns the fluctuations minus their mean and the replica mean plus it.
-/
import PV.Proofs.RealScalar
import PV.Model.JsonRep

namespace PV
open Scalar
open RealS

theorem length_encodeRep (idl : List Int) (deltas : List (List ℝ)) (rvals vals : List ℝ) :
    (encodeRep idl deltas rvals vals).length = idl.length := by
  simp only [encodeRep, List.length_map, List.length_zip, List.length_range, Nat.min_self]

theorem column_encodeRep (idl : List Int) (deltas : List (List ℝ)) (rvals vals : List ℝ) (j : Nat)
    (hd : j < deltas.length) (hr : j < rvals.length) (hj : j < vals.length) (hdl : (deltas[j]).length = idl.length) :
    column (encodeRep idl deltas rvals vals) j
      = (deltas[j]).map (fun x => x + (rvals[j] - vals[j])) := by
  refine List.ext_getElem (by rw [column, List.length_map, length_encodeRep, List.length_map, hdl]) fun i h1 h2 => ?_
  have hi : i < (deltas[j]).length := by simpa using h2
  have hz : j < (List.zip deltas (List.zip rvals vals)).length := by
    rw [List.length_zip, List.length_zip]; exact Nat.lt_min.mpr ⟨hd, Nat.lt_min.mpr ⟨hr, hj⟩⟩
  simp only [column, encodeRep, List.getElem_map, List.getElem_zip, List.getElem_range,
    ← List.getElem_eq_getD (h := (List.length_map _).symm ▸ hz), ← List.getElem_eq_getD (h := hi)]

theorem decode_encodeRep_fst (idl : List Int) (deltas : List (List ℝ)) (rvals vals : List ℝ) :
    (decodeRep (encodeRep idl deltas rvals vals) vals).1 = idl := by
  show (encodeRep idl deltas rvals vals).map (·.1) = idl
  rw [encodeRep, List.map_map]
  exact List.map_fst_zip (by simp)

theorem offset_eq_mean (rows : List (Int × List ℝ)) (j : Nat) :
    sum (column rows j) / ofNatS rows.length = mean (column rows j) := by
  rw [mean, column, List.length_map]

theorem mean_column_encodeRep (idl : List Int) (deltas : List (List ℝ)) (rvals vals : List ℝ) (hn : 0 < idl.length)
    (j : Nat) (hd : j < deltas.length) (hr : j < rvals.length) (hj : j < vals.length)
    (hdl : (deltas[j]).length = idl.length) :
    mean (column (encodeRep idl deltas rvals vals) j) = mean (deltas[j]) + (rvals[j] - vals[j]) := by
  rw [column_encodeRep idl deltas rvals vals j hd hr hj hdl, mean_add_const]
  exact List.ne_nil_of_length_pos (hdl ▸ hn)

theorem decode_encodeRep (idl : List Int) (deltas : List (List ℝ)) (rvals vals : List ℝ)
    (hn : 0 < idl.length) (hk1 : deltas.length = vals.length) (hk2 : rvals.length = vals.length)
    (hlen : ∀ d ∈ deltas, d.length = idl.length) :
    decodeRep (encodeRep idl deltas rvals vals) vals
      = (idl, deltas.map (fun d => d.map (· - mean d)), List.zipWith (fun d r => mean d + r) deltas rvals) := by
  refine Prod.ext (decode_encodeRep_fst idl deltas rvals vals) (Prod.ext ?_ ?_)
  · refine List.ext_getElem (by simp [decodeRep, hk1]) fun j h1 h2 => ?_
    have hd : j < deltas.length := by simpa using h2
    have hdl := hlen _ (List.getElem_mem hd)
    simp only [decodeRep, List.getElem_map, List.getElem_zip, List.getElem_range, offset_eq_mean]
    rw [mean_column_encodeRep idl deltas rvals vals hn j hd (by omega) (by omega) hdl,
      column_encodeRep idl deltas rvals vals j hd (by omega) (by omega) hdl, List.map_map]
    exact List.map_congr_left fun x _ => add_sub_add_right_eq_sub x _ _
  · refine List.ext_getElem (by simp [decodeRep, hk1, hk2]) fun j h1 h2 => ?_
    have hd : j < deltas.length := by rw [List.length_zipWith] at h2; omega
    simp only [decodeRep, List.getElem_zipWith, List.getElem_map, List.getElem_range, offset_eq_mean]
    rw [mean_column_encodeRep idl deltas rvals vals hn j hd (by omega) (by omega) (hlen _ (List.getElem_mem hd)),
      add_assoc, sub_add_cancel]

end PV
