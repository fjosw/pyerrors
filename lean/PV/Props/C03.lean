/-
  Property C03 — the error analysis is invariant under relabelling, rescaling and call history.
  What `gamma_method` writes and `derived_observable` reads is taken from the AST of obs.py (PV/Gen/Frames.lean);
  the call history is the model PV/Model/History.lean; rescaling is stated for the specification of C02.
-/
import PV.Gen.Frames
import PV.Model.History
import PV.Proofs.RelabelLemmas
import PV.Proofs.GammaTable
import PV.Proofs.RescaleLemmas

namespace PV
open Scalar
open PV.Gen.Frames

/-- the attributes that hold an observable's data (everything the property says the analysis
    must never alter) -/
def dataAttrs : List String :=
  ["names", "shape", "r_values", "deltas", "N", "_value", "reweighted", "idl", "tag", "_covobs"]

/-- the translator recognised the source -/
theorem c03_frames_translated : translated = true := by decide

/-- C03 (frame): `gamma_method` — including the helpers it hands the object to — assigns no
    attribute that holds the observable's data: central value, fluctuations, configuration
    lists, replica means, names, covariance inputs, flags.  (Regenerated from the AST of
    pyerrors/obs.py on every run.) -/
theorem c03_frame : ∀ a ∈ gmWrites ++ helperWrites, a ∉ dataAttrs := by decide +kernel

/-- C03 (no stale results): every attribute `gamma_method` fills entry by entry is first
    replaced by a fresh empty container at the top of the same call, so nothing written by an
    earlier analysis (with other parameters, or of an object with other ensembles) survives -/
theorem c03_reset_complete : ∀ a ∈ gmSubscriptWrites ++ gmDynamic, a ∈ gmResets := by decide +kernel

/-- C03 (derivation is blind to analyses): `derived_observable` reads no attribute that
    `gamma_method` writes, hence deriving from an analysed object equals deriving from a fresh one -/
theorem c03_derive_blind : ∀ a ∈ derivedReads, a ∉ gmWrites := by decide +kernel

section generic
variable {α : Type} [Transc α]

/-- C03 (relabelling): multiplying all configuration numbers of an ensemble by `a ≥ 1` and
    shifting them by `b` leaves every output of the analysis of that ensemble unchanged —
    tau_int, its error, the error, the error of the error, the window, ρ, δρ.  Holds for every
    scalar type (the integer bookkeeping is literally identical). -/
theorem c03_affine (fp : FpConsts α) (ens : String) (reps : List (Rep α)) (S te ns : α)
    (a b : Int) (ha : 1 ≤ a) :
    gammaEnsemble fp ens (reps.map (Rep.affine a b)) S te ns = gammaEnsemble fp ens reps S te ns := by
  by_cases hne : reps = []
  · subst hne; rfl
  rw [gammaEnsemble_eq_analyse, gammaEnsemble_eq_analyse, determineGap_affine a b ha ens reps hne]
  -- `simp only [Except.bind]`, not `rfl`: the kernel would compare the two continuations before unfolding `bind`
  cases determineGap ens reps with
  | error e => simp only [Except.bind]
  | ok g =>
    simp only [Except.bind, List.map_map, Function.comp_def, Rep.affine_idl, rLength_affine a b ha, Idl.len_affine,
      gammaTable_affine a b ha]

/-- C03 (renaming): the per-ensemble analysis never looks at replica names -/
theorem c03_rename (fp : FpConsts α) (ens : String) (reps : List (Rep α)) (S te ns : α)
    (f : String → String) :
    gammaEnsemble fp ens (reps.map (Rep.rename f)) S te ns = gammaEnsemble fp ens reps S te ns := by
  simp only [gammaEnsemble_eq_analyse, determineGap, gammaTable, List.map_map, List.foldl_map, Function.comp_def,
    Rep.rename]
end generic

section history
variable {α : Type} [Scalar α] {R : Type}

/-- analyses never change the defaults -/
theorem c03_globals (enss : Nat → List String) (analyse : Nat → List (String × α × α × α) → Option R)
    (w : World α R) (ops : List (HOp α)) :
    (run enss analyse w ops).g = globalsAfter w.g ops := by
  induction ops generalizing w with
  | nil => rfl
  | cons op r ih =>
    rw [run, List.foldl_cons, ← run, ih]
    cases op with
    | gm j kw =>
      simp only [step, globalsAfter]
      split <;> rfl
    | _ => rfl

/-- C03 (history): after ANY sequence of operations (changes of the global and per-ensemble
    defaults, analyses of this and of other objects with any arguments, arithmetic) the stored
    analysis of object `i` is the one determined by its last analysis alone: the data of `i` and
    the parameters effective at that moment (argument over dictionary over global). -/
theorem c03_history (enss : Nat → List String) (analyse : Nat → List (String × α × α × α) → Option R)
    (w : World α R) (ops : List (HOp α)) (i : Nat) (hi : i < w.res.length) :
    (run enss analyse w ops).res.getD i none
      = lastResult enss analyse w.g (w.res.getD i none) i ops := by
  induction ops generalizing w with
  | nil => rfl
  | cons op r ih =>
    rw [run, List.foldl_cons, ← run]
    cases op with
    | gm j kw =>
      have hlen : i < (step enss analyse w (.gm j kw)).res.length := by
        simp only [step]
        split <;> simpa using hi
      rw [ih _ hlen]
      simp only [lastResult, step, globalsAfter]
      by_cases hj : j = i
      · subst hj
        cases effective w.g kw (enss j) <;> simp [hi]
      · cases effective w.g kw (enss j) <;> simp [hj, List.getD_eq_getElem?_getD, List.getElem?_set_ne hj]
    -- every other operation leaves the stored results alone, and `lastResult` follows the defaults by definition
    | _ => exact ih _ hi

/-- C03 (precedence): explicit argument over per-ensemble dictionary over global default;
    a negative explicit argument is rejected -/
theorem c03_precedence (g : Globals α) (kw : List (Kw × α)) (k : Kw) (e : String) :
    effective1 g kw k e =
      (match kw.find? (·.1 == k) with
       | some (_, v) => if v < 0 then .error .negativeParam else .ok v
       | none => .ok ((dictGet? (g.dict k) e).getD (g.glob k))) := by
  unfold effective1
  cases kw.find? (·.1 == k) with
  | some p => rfl
  | none => cases dictGet? (g.dict k) e <;> rfl
end history

section real
open RealS
/-- C03 (bounds): the clamp and the bias factor keep tau_int above 1/2 and all errors non-negative,
    whenever the analysis of an ensemble succeeds (over ℝ, with positive eps, half = 1/2,
    at least two configurations, tau_exp ≥ 0) -/
theorem c03_tau_ge_half (fp : FpConsts ℝ) (ens : String) (reps : List (Rep ℝ)) (S te ns : ℝ)
    (r : EnsResult ℝ) (hfp : fp.half = 1 / 2 ∧ 0 < fp.eps)
    (hN : 2 ≤ (reps.map (·.idl.len)).foldr (· + ·) 0) (hte : 0 ≤ te)
    (h : gammaEnsemble fp ens reps S te ns = .ok r) :
    1 / 2 ≤ r.tauint ∧ 0 ≤ r.dtauint ∧ 0 ≤ r.dvalue ∧ 0 ≤ r.ddvalue := by
  rw [gammaEnsemble_eq_analyse] at h
  obtain ⟨gap, -, h⟩ := Except.bind_eq_ok.mp h
  refine analyseGamma_bounds fp ens _ _ _ S te ns r hfp ?_ hte (gammaTable_length reps _ gap) h
  rw [ofNatS_eq]
  exact Nat.cast_pos.mpr (by omega)
end real

section rescaling
open PV.C03b

/-- C03 (multiplying the data by c): in the Gamma method of the specification (which `c02_formulas` shows
    the model of the code to compute), multiplying every fluctuation of an ensemble by `c ≠ 0` leaves
    τ_int, its error, the summation window, ρ, δρ and every τ_int(W) unchanged and multiplies the error
    and the error of the error by |c| — for every chain layout, S, τ_exp and N_σ.  The two hypotheses
    say that neither data set falls under the implementation's zero-variance guard
    (Γ(0) < 10·tiny), where the analysis deliberately reports zero error. -/
theorem c03_scale_data (fp : FpConsts ℝ) (ens : String) (reps : List (Rep ℝ)) (gap : Int) (wmax : Nat)
    (S te ns c : ℝ) (hc : c ≠ 0) (hw : 1 ≤ wmax)
    (hg1 : ¬ absS (Spec.gamma reps gap 0) < fp.tenTiny)
    (hg2 : ¬ absS (c ^ 2 * Spec.gamma reps gap 0) < fp.tenTiny) :
    Spec.ensemble fp ens (reps.map (scaleRep c)) gap wmax S te ns
      = (Spec.ensemble fp ens reps gap wmax S te ns).map (scaleRes |c|) := by
  rw [ensemble_eq_analyse, ensemble_eq_analyse]
  have hN : (reps.map (scaleRep c)).map (·.idl.len) = reps.map (·.idl.len) := by
    rw [List.map_map]; rfl
  have hG : (List.range wmax).map (Spec.gamma (reps.map (scaleRep c)) gap)
      = ((List.range wmax).map (Spec.gamma reps gap)).map (c ^ 2 * ·) := by
    rw [List.map_map, funext (gamma_scale c reps gap)]
    rfl
  rw [hN, hG]
  have hk : 0 < c ^ 2 := sq_pos_iff.mpr hc
  rw [analyse_scale fp ens _ wmax _ S te ns (c ^ 2) hk (by rw [getD_map_range _ _ hw]; exact hg1)
    (by rw [getD_map_range _ _ hw]; exact hg2)]
  rw [Real.sqrt_sq_eq_abs]

/-- what `scaleRes` leaves alone and what it scales -/
theorem c03_scaleRes_fields (s : ℝ) (r : EnsResult ℝ) :
    (scaleRes s r).tauint = r.tauint ∧ (scaleRes s r).dtauint = r.dtauint ∧
    (scaleRes s r).windowsize = r.windowsize ∧ (scaleRes s r).rho = r.rho ∧ (scaleRes s r).drho = r.drho ∧
    (scaleRes s r).nTauint = r.nTauint ∧ (scaleRes s r).dvalue = s * r.dvalue ∧
    (scaleRes s r).ddvalue = s * r.ddvalue := ⟨rfl, rfl, rfl, rfl, rfl, rfl, rfl, rfl⟩

/-- Γ(t) of the rescaled data is c²·Γ(t), for every lag and layout -/
theorem c03_gamma_scale (c : ℝ) (reps : List (Rep ℝ)) (gap : Int) (t : Nat) :
    Spec.gamma (reps.map (scaleRep c)) gap t = c ^ 2 * Spec.gamma reps gap t := gamma_scale c reps gap t

/-- C03 (adding a constant to the data): the fluctuations the constructor stores (sample minus
    replica mean) do not change, and the replica mean moves by the constant; the analysis, which reads
    only fluctuations and configuration numbers (`gammaEnsemble` uses `r.deltas` and `r.idl` of a replica and
    nothing else), is therefore unchanged -/
theorem c03_addconst (s : List ℝ) (c : ℝ) (hs : s ≠ []) :
    (s.map (· + c)).map (· - mean (s.map (· + c))) = s.map (· - mean s) ∧
    mean (s.map (· + c)) = mean s + c :=
  ⟨by rw [RealS.mean_add_const s c hs, List.map_map]
      exact List.map_congr_left fun x _ => add_sub_add_right_eq_sub x (mean s) c,
    RealS.mean_add_const s c hs⟩

end rescaling

end PV
