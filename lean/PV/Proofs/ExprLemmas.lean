/-
  Evaluation of `E.eval` at ℝ as plain Mathlib expressions, constructor by constructor, and the tactic `site_simp` that
  applies these to the lambda body and the gradient terms of a call site (PV/Props/C01.lean, C05.lean).
-/
import PV.Proofs.RealScalar
import PV.Model.Ops

namespace PV
namespace EvalR

variable (x : Nat → ℝ) (y : ℝ) (a b : E)

theorem eval_var (i : Nat) : E.eval x y (.var i) = x i := rfl
theorem eval_par : E.eval x y .par = y := rfl
theorem eval_num (n : Int) : E.eval x y (.num n) = (n : ℝ) := rfl
theorem eval_add : E.eval x y (.add a b) = E.eval x y a + E.eval x y b := rfl
theorem eval_sub : E.eval x y (.sub a b) = E.eval x y a - E.eval x y b := rfl
theorem eval_mul : E.eval x y (.mul a b) = E.eval x y a * E.eval x y b := rfl
theorem eval_div : E.eval x y (.div a b) = E.eval x y a / E.eval x y b := rfl
theorem eval_neg : E.eval x y (.neg a) = -E.eval x y a := rfl
theorem eval_pow : E.eval x y (.pow a b) = E.eval x y a ^ E.eval x y b := rfl
theorem eval_sqrt : E.eval x y (.sqrt a) = Real.sqrt (E.eval x y a) := rfl
theorem eval_log : E.eval x y (.log a) = Real.log (E.eval x y a) := rfl
theorem eval_exp : E.eval x y (.exp a) = Real.exp (E.eval x y a) := rfl
theorem eval_sin : E.eval x y (.sin a) = Real.sin (E.eval x y a) := rfl
theorem eval_cos : E.eval x y (.cos a) = Real.cos (E.eval x y a) := rfl
theorem eval_tan : E.eval x y (.tan a) = Real.tan (E.eval x y a) := rfl
theorem eval_sinh : E.eval x y (.sinh a) = Real.sinh (E.eval x y a) := rfl
theorem eval_cosh : E.eval x y (.cosh a) = Real.cosh (E.eval x y a) := rfl
theorem eval_tanh : E.eval x y (.tanh a) = Real.tanh (E.eval x y a) := rfl
theorem eval_arcsin : E.eval x y (.arcsin a) = Real.arcsin (E.eval x y a) := rfl
theorem eval_arccos : E.eval x y (.arccos a) = Real.arccos (E.eval x y a) := rfl
theorem eval_arctan : E.eval x y (.arctan a) = Real.arctan (E.eval x y a) := rfl
theorem eval_arcsinh : E.eval x y (.arcsinh a) = Real.arsinh (E.eval x y a) := rfl
theorem eval_arccosh : E.eval x y (.arccosh a) = Real.arcosh (E.eval x y a) := rfl
theorem eval_arctanh : E.eval x y (.arctanh a) = Real.artanh (E.eval x y a) := rfl
theorem eval_abs : E.eval x y (.abs a) = |E.eval x y a| := by
  show Scalar.absS (E.eval x y a) = _
  exact RealS.absS_eq _

end EvalR

open EvalR in
macro "site_simp" "[" s:term "]" : tactic =>
  `(tactic| simp (config := {decide := true}) only [$s:term, eval_var, eval_par, eval_num, eval_add,
     eval_sub, eval_mul, eval_div, eval_neg, eval_pow, eval_sqrt, eval_log, eval_exp, eval_sin, eval_cos,
     eval_tan, eval_sinh, eval_cosh, eval_tanh, eval_arcsin, eval_arccos, eval_arctan, eval_arcsinh,
     eval_arccosh, eval_arctanh, eval_abs,
     Function.update_self, Function.update_of_ne, ne_eq, not_false_eq_true,
     List.getD_cons_zero, List.getD_cons_succ, List.getD_eq_getElem?_getD, List.getElem?_cons_zero,
     List.getElem?_cons_succ, Option.getD_some, Int.cast_one, Int.cast_zero, Int.cast_ofNat])

/-- the four gradient entries of a site of complex multiplication, one by one -/
theorem lt_four_cases {i n : Nat} (h : i < n) (hn : n = 4) : i = 0 ∨ i = 1 ∨ i = 2 ∨ i = 3 := by
  omega

end PV
