/-
  `reweight`, `correlate`, `merge_obs` (PV/Model/Combine.lean): `_reduce_deltas` selects by configuration number;
  each of the three functions as its chain of checks followed by a call of the constructor; and the per-configuration
  sample (`sampleAt`) of an input, of what the constructor returns, and of the weight reduced to a chain of the observable.
-/
import PV.Proofs.MkObs
import PV.Proofs.RealScalar
import PV.Model.Combine

namespace PV.C05

/-! ### `reduceDeltas` -/

theorem map_fst_filter_zip {α : Type} (L : List Int) (d : List α) (p : Int → Bool) (h : d.length = L.length) :
    ((List.zip L d).filter (fun x => p x.1)).map (·.1) = L.filter p := by
  rw [show (fun x : Int × α => p x.1) = p ∘ Prod.fst from rfl, ← List.filter_map, List.map_fst_zip (by omega)]

theorem filter_subperm {L N : List Int} (hL : L.Pairwise (· < ·)) : (L.filter (fun c => N.contains c)).Subperm N :=
  List.subperm_of_subset ((hL.imp ne_of_lt).filter _) fun c hc => by simpa using (List.mem_filter.mp hc).2

theorem filter_len_le (L N : List Int) (hL : L.Pairwise (· < ·)) :
    (L.filter (fun c => N.contains c)).length ≤ N.length :=
  (filter_subperm hL).length_le

theorem filter_eq_of_len {L N : List Int} (hL : L.Pairwise (· < ·)) (hN : N.Pairwise (· < ·))
    (h : N.length ≤ (L.filter (fun c => N.contains c)).length) : L.filter (fun c => N.contains c) = N :=
  (hL.filter _).eq_of_mem_iff hN fun _ => ((filter_subperm hL).perm_of_length_le h).mem_iff

theorem filter_len_lt {L N : List Int} (hL : L.Pairwise (· < ·)) {c : Int} (hc : c ∈ N) (hcL : c ∉ L) :
    (L.filter (fun c => N.contains c)).length < N.length :=
  Nat.lt_of_not_le fun h => hcL (List.mem_filter.mp (((filter_subperm hL).perm_of_length_le h).mem_iff.mpr hc)).1

section generic
variable {α : Type}

theorem reduce_lookup (d : List α) (old new : Idl) (d' : List α)
    (hold : Idl.strictInc old.toList = true) (hnew : Idl.strictInc new.toList = true)
    (h : reduceDeltas d old new = some d') :
    d'.length = new.len ∧
    ∀ k, k < new.len → ∃ j, old.pos? (new.toList.getD k 0) = some j ∧ d'[k]? = d[j]? := by
  have hpo := Idl.strictInc_iff.mp hold
  simp only [reduceDeltas, Option.ite_none_left_eq_some, bne_iff_ne, ne_eq, Decidable.not_not] at h
  obtain ⟨hlen, h⟩ := h
  split at h
  · rename_i hs
    simp only [Idl.sameSeq, beq_iff_eq] at hs
    cases h
    refine ⟨hlen.trans (congrArg List.length hs), fun k hk => ⟨k, ?_, rfl⟩⟩
    have hk' : k < old.toList.length := hs ▸ hk
    rw [← hs, ← List.getElem_eq_getD (h := hk')]
    exact Idl.pos?_getElem hpo hk'
  · obtain ⟨hge, h⟩ := Option.ite_none_left_eq_some.mp h
    cases h
    have hmap := map_fst_filter_zip old.toList d (fun c => new.toList.contains c) hlen
    rw [filter_eq_of_len hpo (Idl.strictInc_iff.mp hnew)
      (by rw [← hmap, List.length_map]; exact Nat.le_of_not_lt hge)] at hmap
    have hlenP := (List.length_map _).symm.trans (congrArg List.length hmap)
    refine ⟨(List.length_map _).trans hlenP, fun k hk => ?_⟩
    have hkP : k < (List.filter (fun x : Int × α => new.toList.contains x.1) (old.toList.zip d)).length := hlenP ▸ hk
    obtain ⟨j, hj, hjeq⟩ := List.mem_iff_getElem.mp (List.mem_filter.mp (List.getElem_mem hkP)).1
    obtain ⟨hj1, hj2⟩ := Nat.lt_min.mp (List.length_zip ▸ hj)
    rw [List.getElem_zip] at hjeq
    have hfst : new.toList[k] = old.toList[j] :=
      (List.getElem_of_eq hmap.symm hk).trans ((List.getElem_map _).trans (congrArg Prod.fst hjeq.symm))
    refine ⟨j, ?_, ?_⟩
    · rw [← List.getElem_eq_getD (h := hk), hfst]
      exact Idl.pos?_getElem hpo _
    · rw [List.getElem?_map, List.getElem?_eq_getElem hkP, ← hjeq, List.getElem?_eq_getElem hj2]
      rfl

end generic

/-! ### the three functions as checks followed by the constructor

  The loop bodies and tails of the model's `do` blocks are restated as definitions (`corrBody`, `rwBody`, `wredStep`,
  `rwFinish`, `mkFlag`), and `correlate_eq`, `reweight1_eq`, `mergeObs_eq` identify the model with them by `rfl`: in this
  form `forIn_checks_eq_ok` and `ite_error_eq_ok` apply.  If the model's text changes the `rfl`s break, and the
  restatements follow the model. -/

section elem
variable {α : Type} [Elem α]

def corrBody (x : Rep α × Rep α) (_ : PUnit.{1}) : Except CombErr (ForInStep PUnit.{1}) :=
  if (x.1.idl.len != x.2.idl.len) = true then .error (.shapes x.1.name)
  else if (!(x.1.idl.sameSeq x.2.idl && x.1.idl.isRange == x.2.idl.isRange)) = true then .error (.idlMismatch x.1.name)
  else .ok (ForInStep.yield PUnit.unit)

omit [Elem α] in
theorem corrBody_eq_ok (p : Rep α × Rep α) (s : ForInStep PUnit.{1}) : corrBody p PUnit.unit = .ok s ↔
    (p.1.idl.len = p.2.idl.len ∧ p.1.idl.toList = p.2.idl.toList ∧ p.1.idl.isRange = p.2.idl.isRange) ∧
      s = .yield PUnit.unit := by
  simp only [corrBody, ite_error_eq_ok, bne_iff_ne, ne_eq, Decidable.not_not, Bool.not_eq_true', Bool.not_eq_false,
    Bool.and_eq_true, Idl.sameSeq, beq_iff_eq, Except.ok.injEq, and_assoc, eq_comm (a := s)]

/-- the last step of `correlate` and `mergeObs` -/
def mkFlag (x : Except MkErr (Obs α)) (b : Bool) : Except CombErr (Obs α) :=
  match x with
  | .ok o => .ok { o with reweighted := b }
  | .error e => .error (.mk e)

omit [Elem α] in
theorem mkFlag_eq_ok {x : Except MkErr (Obs α)} {b : Bool} {o : Obs α} :
    mkFlag x b = .ok o ↔ ∃ o', x = .ok o' ∧ o = { o' with reweighted := b } := by
  cases x with
  | error e => exact iff_of_false nofun (fun ⟨_, h, _⟩ => nomatch h)
  | ok o' => simp only [mkFlag, Except.ok.injEq, exists_eq_left', eq_comm]

theorem correlate_eq (a b : Obs α) : correlate a b =
    if (decide (a.mcNames.length > 1) || decide (b.mcNames.length > 1)) = true then .error .multipleEnsembles
    else if (a.names != b.names) = true then .error .ensemblesDoNotFit
    else if (decide (a.covs.length > 0) || decide (b.covs.length > 0)) = true then .error .covobs
    else forIn (a.reps.zip b.reps) PUnit.unit corrBody >>= fun _ => mkFlag
      (mkObs ((a.reps.zip b.reps).map (fun x => List.zipWith (· * ·) (Rep.samples x.1) (Rep.samples x.2)))
        a.names (some (a.reps.map (·.idl)))) (a.reweighted || b.reweighted) :=
  rfl

/-- every check of `correlate`, then the constructor on the products of the samples, then the flag -/
theorem correlate_eq_ok {a b o : Obs α} : correlate a b = .ok o ↔
    (a.mcNames.length ≤ 1 ∧ b.mcNames.length ≤ 1) ∧ a.names = b.names ∧ (a.covs = [] ∧ b.covs = []) ∧
    (∀ p ∈ a.reps.zip b.reps,
      p.1.idl.len = p.2.idl.len ∧ p.1.idl.toList = p.2.idl.toList ∧ p.1.idl.isRange = p.2.idl.isRange) ∧
    ∃ o', mkObs ((a.reps.zip b.reps).map (fun x => List.zipWith (· * ·) (Rep.samples x.1) (Rep.samples x.2)))
        a.names (some (a.reps.map (·.idl))) = .ok o' ∧ o = { o' with reweighted := a.reweighted || b.reweighted } := by
  simp only [correlate_eq, ite_error_eq_ok, Except.bind_eq_ok, forIn_checks_eq_ok corrBody_eq_ok, mkFlag_eq_ok,
    Bool.or_eq_true, decide_eq_true_eq, not_or, Nat.not_lt, bne_iff_ne, ne_eq, Decidable.not_not,
    Nat.le_zero, List.length_eq_zero_iff, exists_const]

def rwBody (w : Obs α) (r : Rep α) (_ : PUnit.{1}) : Except CombErr (ForInStep PUnit.{1}) :=
  match w.rep? r.name with
  | none => .error .ensemblesDoNotFit
  | some wr =>
    if (!(r.idl.toList.all (fun c => wr.idl.toList.contains c))) = true then .error (.notSubset r.name)
    else .ok (.yield PUnit.unit)

omit [Elem α] in
theorem rwBody_eq_ok (w : Obs α) (r : Rep α) (s : ForInStep PUnit.{1}) : rwBody w r PUnit.unit = .ok s ↔
    (∃ wr, w.rep? r.name = some wr ∧ ∀ c ∈ r.idl.toList, c ∈ wr.idl.toList) ∧ s = .yield PUnit.unit := by
  unfold rwBody
  split
  · rename_i hw
    exact iff_of_false nofun fun ⟨⟨_, h, _⟩, _⟩ => nomatch hw.symm.trans h
  · rename_i wr hw
    simp only [hw, Option.some.injEq, exists_eq_left', ite_error_eq_ok, Bool.not_eq_true', Bool.not_eq_false,
      List.all_eq_true, List.contains_eq_mem, decide_eq_true_eq, Except.ok.injEq, eq_comm (a := s)]

def liftMk (x : Except MkErr (Obs α)) : Except CombErr (Obs α) :=
  match x with | .ok x => .ok x | .error e => .error (.mk e)

def rwDiv (tmp norm : Obs α) : Except CombErr (Obs α) :=
  match findSite "truediv_obs" with
  | none => .error (.der .gradShape)
  | some s => match applySite s [tmp, norm] 0 with
    | .ok r => .ok { r with reweighted := true }
    | .error e => .error (.der e)

/-- the body of the `mapM` that computes `wred` in `reweight1` -/
def wredStep (w : Obs α) (r : Rep α) : Except CombErr (List α) :=
  match w.rep? r.name with
  | none => throw CombErr.ensemblesDoNotFit
  | some wr => match reduceDeltas wr.deltas wr.idl r.idl with
    | none => throw (CombErr.notSubset r.name)
    | some d => pure (d.map (· + wr.rvalue))

def rwFinish (w o : Obs α) (allConfigs : Bool) : Except CombErr (Obs α) := do
  let wred ← o.reps.mapM (wredStep w)
  let newSamples := List.zipWith (fun ws r => List.zipWith (· * ·) ws (Rep.samples r)) wred o.reps
  let names := o.reps.map (·.name)
  let idls := o.reps.map (·.idl)
  let tmp ← match mkObs newSamples names (some idls) with
    | .ok x => pure x | .error e => throw (.mk e)
  let norm ← if allConfigs then pure w else
    match mkObs wred names (some idls) with
    | .ok x => pure x | .error e => throw (.mk e)
  rwDiv tmp norm

theorem reweight1_eq (w o : Obs α) (ac : Bool) : reweight1 w o ac =
    if o.covs.length > 0 then .error .covobs
    else if w.covs.length > 0 then .error .covobs
    else if (!(o.names.all (fun n => w.names.contains n))) = true then .error .ensemblesDoNotFit
    else if (decide (o.mcNames.length > 1) || decide (w.mcNames.length > 1)) = true then .error .multipleEnsembles
    else (forIn o.reps PUnit.unit (rwBody w)).bind (fun _ => rwFinish w o ac) := by
  unfold reweight1
  rfl

theorem reweight1_ok {w o res : Obs α} {ac : Bool} (h : reweight1 w o ac = .ok res) :
    (o.covs = [] ∧ w.covs = []) ∧ (∀ n ∈ o.names, n ∈ w.names) ∧ (o.mcNames.length ≤ 1 ∧ w.mcNames.length ≤ 1) ∧
    (∀ r ∈ o.reps, ∃ wr, w.rep? r.name = some wr ∧ ∀ c ∈ r.idl.toList, c ∈ wr.idl.toList) ∧
    ∃ (W : Rep α → List α) (tmp norm : Obs α), (∀ r ∈ o.reps, wredStep w r = .ok (W r)) ∧
      mkObs (o.reps.map fun r => List.zipWith (· * ·) (W r) (Rep.samples r)) (o.reps.map (·.name))
        (some (o.reps.map (·.idl))) = .ok tmp ∧
      (if ac = true then norm = w else mkObs (o.reps.map W) (o.reps.map (·.name)) (some (o.reps.map (·.idl))) = .ok norm) ∧
      rwDiv tmp norm = .ok res := by
  simp only [reweight1_eq, ite_error_eq_ok] at h
  obtain ⟨ho, hw, hn, hm, h⟩ := h
  obtain ⟨_, hloop, h⟩ := Except.bind_eq_ok.mp h
  refine ⟨by simpa using And.intro ho hw, by simpa using hn, by simpa using hm,
    (forIn_checks_eq_ok (rwBody_eq_ok w)).mp hloop, ?_⟩
  unfold rwFinish at h
  obtain ⟨wred, hM, h⟩ := Except.bind_eq_ok.mp h
  obtain ⟨W, hW, rfl⟩ := mapM_eq_ok_exists_map hM
  simp only [List.zipWith_map_left, List.zipWith_self] at h
  split at h
  · rename_i tmp htmp
    refine ⟨W, tmp, ?_⟩
    split_ifs at h with hac
    · exact ⟨w, hW, htmp, by simp [hac], h⟩
    · split at h
      · rename_i norm hnorm
        exact ⟨norm, hW, htmp, by simpa [hac] using hnorm, h⟩
      · cases h
  · cases h

/-- the quotient step is one call of `derived_observable` at the site `truediv_obs` -/
theorem rwDiv_ok {tmp norm r : Obs α} (h : rwDiv tmp norm = .ok r) :
    ∃ r', derivedObs (fun v => Gen.Grads.truediv_obs.func.eval (fun i => v.getD i 0) 0)
        ([E.div (.num 1) (.var 1), .div (.neg (.var 0)) (.pow (.var 1) (.num 2))].map
          fun g => g.eval (fun i => ([tmp, norm].getD i default).value) 0) [tmp, norm] covEqExact = .ok r' ∧
      r = { r' with reweighted := true } := by
  unfold rwDiv at h
  rw [show findSite "truediv_obs" = some Gen.Grads.truediv_obs from rfl] at h
  simp only [applySite, show Gen.Grads.truediv_obs.gradTerms = some [.div (.num 1) (.var 1),
    .div (.neg (.var 0)) (.pow (.var 1) (.num 2))] from rfl] at h
  split at h
  · cases h; exact ⟨_, ‹_›, rfl⟩
  · cases h

theorem mergeObs_eq (l : List (Obs α)) : mergeObs l =
    if ((Py.sortedSetStr (l.flatMap (fun o => o.names ++ o.covNames))).length
          != (l.flatMap (fun o => o.names ++ o.covNames)).length) = true then .error .duplicateReplica
    else if (l.any (fun o => decide (o.covs.length > 0))) = true then .error .covobs
    else mkFlag (let sorted := Py.sortBy (fun (a b : Rep α) => a.name ≤ b.name) (l.flatMap (·.reps))
      mkObs (sorted.map Rep.samples) (sorted.map (·.name)) (some (sorted.map (·.idl)))) (l.any (·.reweighted)) :=
  rfl

theorem mergeObs_ok {l : List (Obs α)} {o : Obs α} (h : mergeObs l = .ok o) :
    (l.flatMap (fun o => o.names ++ o.covNames)).Nodup ∧ (∀ x ∈ l, x.covs = []) ∧
    ∃ o', (let sorted := Py.sortBy (fun (a b : Rep α) => a.name ≤ b.name) (l.flatMap (·.reps))
           mkObs (sorted.map Rep.samples) (sorted.map (·.name)) (some (sorted.map (·.idl)))) = .ok o'
      ∧ o = { o' with reweighted := l.any (·.reweighted) } := by
  simp only [mergeObs_eq, ite_error_eq_ok] at h
  exact ⟨(Py.nodup_of_length_sortedSetStr (by simpa using h.1)).1, by simpa using h.2.1, mkFlag_eq_ok.mp h.2.2⟩

end elem

end PV.C05

namespace PV

/-- the per-configuration sample of chain `n` of `o` on configuration `c` (fluctuation + replica
    mean); `none` where not measured -/
def sampleAt {α : Type} [Scalar α] (o : Obs α) (n : String) (c : Int) : Option α := do
  let r ← o.rep? n
  let k ← r.idl.pos? c
  let d ← r.deltas[k]?
  pure (d + r.rvalue)

namespace C05

theorem sampleAt_of {α : Type} [Scalar α] {o : Obs α} {n : String} {c : Int} {r : Rep α} {k : Nat} {d : α}
    (hr : o.rep? n = some r) (hk : r.idl.pos? c = some k) (hd : r.deltas[k]? = some d) :
    sampleAt o n c = some (d + r.rvalue) := by
  simp only [sampleAt, hr, Option.bind_eq_bind, Option.bind_some, hk, hd]; rfl

theorem sampleAt_input {α : Type} [Elem α] {o : Obs α} (hw : o.WFacts) {r : Rep α} (hr : r ∈ o.reps) {c : Int}
    (hc : c ∈ r.idl.toList) :
    ∃ k v, r.idl.pos? c = some k ∧ (Rep.samples r)[k]? = some v ∧ sampleAt o r.name c = some v := by
  obtain ⟨k, hk, _, hpos⟩ := Idl.pos?_of_mem (hw.pairwise hr) hc
  have hkd : k < r.deltas.length := hw.len r hr ▸ hk
  exact ⟨k, _, hpos, by simp [Rep.samples, List.getElem?_eq_getElem hkd],
    sampleAt_of (Obs.rep?_of_mem hw.names_nodup hr) hpos (List.getElem?_eq_getElem hkd)⟩

/-- the constructor keeps every sample on its configuration number.  Stated for a table `L` of rows with projections
    `nm`, `il`, `sm`: `correlate`, `mergeObs` and `reweight1` all build the constructor's arguments as maps over one list -/
theorem mkObs_sample {β : Type} {L : List β} {nm : β → String} {il : β → Idl} {sm : β → List ℝ} {o : Obs ℝ}
    (h : mkObs (L.map sm) (L.map nm) (some (L.map il)) = .ok o) (hnd : (L.map nm).Nodup) {p : β} (hp : p ∈ L)
    {c : Int} {k : Nat} {v : ℝ} (hk : (il p).pos? c = some k) (hv : (sm p)[k]? = some v) :
    sampleAt o (nm p) c = some v := by
  have hmem : (nm p, il p, sm p) ∈ List.zip (L.map nm) (List.zip (L.map il) (L.map sm)) := by
    rw [List.zip_map', List.zip_map']
    exact List.mem_map_of_mem (f := fun x => (nm x, il x, sm x)) hp
  obtain ⟨r, hr, hrr⟩ := mkObs_rep h hnd hmem
  obtain ⟨i', hnorm, _, rfl⟩ := mkRep_eq_ok.mp hrr
  rw [sampleAt_of hr ((Idl.pos?_congr (Idl.normalise_toList hnorm) c).trans hk)
    (by rw [List.getElem?_map, hv]; rfl)]
  exact congrArg some (sub_add_cancel v (mean (sm p)))

theorem wred_aligned {w : Obs ℝ} (hw : w.WFacts) {r : Rep ℝ} (hr : r.idl.toList.Pairwise (· < ·)) {ws : List ℝ}
    (h : wredStep w r = .ok ws) {c : Int} {k : Nat} (hk : r.idl.pos? c = some k) (hc : c ∈ r.idl.toList) :
    ∃ x, ws[k]? = some x ∧ sampleAt w r.name c = some x := by
  unfold wredStep at h
  split at h
  · cases h
  rename_i wr hwr
  split at h
  · cases h
  rename_i d hd
  cases h
  obtain ⟨hlen, hlook⟩ := reduce_lookup wr.deltas wr.idl r.idl d (hw.idl wr (Obs.rep?_eq_some hwr).1)
    (Idl.strictInc_iff.mpr hr) hd
  obtain ⟨k', hk', hck, hpos⟩ := Idl.pos?_of_mem hr hc
  cases hk.symm.trans hpos
  obtain ⟨j, hj, hdj⟩ := hlook k hk'
  rw [← List.getElem_eq_getD (h := hk'), hck] at hj
  have hkd : k < d.length := hlen ▸ hk'
  have hdk : d[k]? = some d[k] := List.getElem?_eq_getElem hkd
  exact ⟨d[k] + wr.rvalue, by rw [List.getElem?_map, hdk]; rfl, sampleAt_of hwr hj (hdk ▸ hdj).symm⟩

end C05
end PV
