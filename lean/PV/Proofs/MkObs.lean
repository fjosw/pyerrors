/-
  The constructor `mkObs` (`Obs.__init__`): which requests it accepts and what it then returns.
-/
import PV.Proofs.Basic
import PV.Proofs.ObsLemmas

namespace PV
open Scalar

variable {α : Type} [Scalar α]

/-- what `Obs.__init__` does for one chain: normalise `idl[name]`, compare `len(sample)` with it, `r_values`, `deltas` -/
def mkRep : String × Idl × List α → Except MkErr (Rep α) := fun (n, i, s) => do
  let i' ← match Idl.normalise i with
    | .ok x => pure x
    | .error .unsorted => throw MkErr.unsorted
    | .error .duplicate => throw MkErr.duplicate
    | .error .negativeStep => throw MkErr.negativeStep
  if s.length != i'.len then throw MkErr.samplesIdlMismatch
  let m := mean s
  pure ({ name := n, idl := i', deltas := s.map (· - m), rvalue := m } : Rep α)

/-- the configuration lists the constructor works with: those handed in, or `range(1, len + 1)` -/
def mkIdls (samples : List (List α)) : Option (List Idl) → List Idl
  | some il => il
  | none => samples.map (fun s => Idl.range 1 s.length 1)

/-- `sorted(zip(names, idl, samples))` -/
def mkTriples (samples : List (List α)) (names : List String) (idl : Option (List Idl)) :
    List (String × Idl × List α) :=
  Py.sortBy (fun a b => a.1 ≤ b.1) (List.zip names (List.zip (mkIdls samples idl) samples))

/-- `self._value = sum(len * r_value) / N` over the chains -/
def ofReps (reps : List (Rep α)) : Obs α :=
  { value := sum (reps.map (fun r => ofNatS r.idl.len * r.rvalue)) / ofNatS ((reps.map (·.idl.len)).foldr (· + ·) 0),
    reps := reps, covs := [] }

def MkAccepts (samples : List (List α)) (names : List String) (idl : Option (List Idl)) : Prop :=
  samples.length = names.length ∧ (∀ il ∈ idl, il.length = names.length) ∧
  (1 < names.length → (Py.sortedSetStr names).length = names.length ∧
    (Py.sortedSetStr (names.map Py.ensOf)).length ≤ 1) ∧
  ∀ s ∈ samples, 4 < s.length

theorem mkRep_eq_ok {n : String} {i : Idl} {s : List α} {r : Rep α} :
    mkRep (n, i, s) = .ok r ↔ ∃ i', Idl.normalise i = .ok i' ∧ s.length = i'.len ∧
      r = { name := n, idl := i', deltas := s.map (· - mean s), rvalue := mean s } := by
  simp only [mkRep]
  split
  · rename_i i' hi'
    rw [hi']
    simp only [Except.ok.injEq, exists_eq_left', Except.bind_eq_ok, pure, Except.pure]
    split_ifs with hl
    · exact iff_of_false nofun (fun h => by simp [h.1] at hl)
    · exact ⟨fun h => ⟨by simpa using hl, by cases h; rfl⟩, fun h => h.2 ▸ rfl⟩
  all_goals
    rename_i he
    exact iff_of_false nofun (fun ⟨_, h, _⟩ => by rw [he] at h; cases h)

/- `mkObs` written as a chain of guards in front of `mkTail` (`mkObs_eq`, by `rfl`), the form in which `ite_error_eq_ok`
   opens it; if the model's text changes the `rfl` breaks, and the restatement follows the model. -/
def mkTail (samples : List (List α)) (names : List String) (idl : Option (List Idl)) : Except MkErr (Obs α) :=
  if (samples.any (·.length ≤ 4)) = true then .error .tooFewSamples
  else (mkTriples samples names idl).mapM mkRep >>= fun reps => pure (ofReps reps)

/-- the checks in the order `Obs.__init__` makes them -/
theorem mkObs_eq (samples : List (List α)) (names : List String) (idl : Option (List Idl)) :
    mkObs samples names idl =
    if (samples.length != names.length) = true then .error .lenSamplesNames
    else if (idl.any (·.length != names.length)) = true then .error .lenIdl
    else if names.length > 1 then
      if ((Py.sortedSetStr names).length != names.length) = true then .error .namesNotUnique
      else if (Py.sortedSetStr (names.map Py.ensOf)).length > 1 then .error .multipleEnsembles
      else mkTail samples names idl
    else mkTail samples names idl := by
  cases idl <;> rfl

theorem mkTail_eq_ok {samples : List (List α)} {names : List String} {idl : Option (List Idl)} {o : Obs α} :
    mkTail samples names idl = .ok o ↔ (∀ s ∈ samples, 4 < s.length) ∧
      ∃ reps, (mkTriples samples names idl).mapM mkRep = .ok reps ∧ o = ofReps reps := by
  simp only [mkTail, ite_error_eq_ok, List.any_eq_true, decide_eq_true_eq, not_exists, not_and, Nat.not_le,
    Except.bind_eq_ok, pure, Except.pure, Except.ok.injEq, eq_comm (a := o)]

/-- everything else about the constructor follows from this equivalence -/
theorem mkObs_eq_ok {samples : List (List α)} {names : List String} {idl : Option (List Idl)} {o : Obs α} :
    mkObs samples names idl = .ok o ↔
      MkAccepts samples names idl ∧ ∃ reps, (mkTriples samples names idl).mapM mkRep = .ok reps ∧ o = ofReps reps := by
  rw [mkObs_eq, MkAccepts]
  simp only [ite_error_eq_ok, bne_iff_ne, ne_eq, Decidable.not_not, Option.any_eq_true, not_exists, not_and, and_assoc]
  refine and_congr_right' (and_congr_right' ?_)
  by_cases h3 : 1 < names.length
  · simp only [gt_iff_lt, if_true, ite_error_eq_ok, mkTail_eq_ok, h3, true_imp_iff, Nat.not_lt, Decidable.not_not,
      and_assoc]
  · simp only [gt_iff_lt, if_false, mkTail_eq_ok, h3, false_imp_iff, true_and]

theorem mkObs_error_of_not_accepts {samples : List (List α)} {names : List String} {idl : Option (List Idl)}
    (h : ¬ MkAccepts samples names idl) : ∃ e, mkObs samples names idl = .error e :=
  exists_error_of_not_ok fun _ hm => h (mkObs_eq_ok.mp hm).1

omit [Scalar α] in
theorem length_mkIdls {samples : List (List α)} {names : List String} {idl : Option (List Idl)}
    (hlen : samples.length = names.length) (hil : ∀ il ∈ idl, il.length = names.length) :
    (mkIdls samples idl).length = names.length := by
  cases idl with
  | none => simpa [mkIdls] using hlen
  | some il => exact hil il rfl

omit [Scalar α] in
theorem mem_mkTriples {samples : List (List α)} {names : List String} {idl : Option (List Idl)}
    {t : String × Idl × List α} (ht : t ∈ mkTriples samples names idl) :
    t.1 ∈ names ∧ t.2.1 ∈ mkIdls samples idl ∧ t.2.2 ∈ samples := by
  have h1 := List.of_mem_zip (Py.mem_sortBy.mp ht)
  exact ⟨h1.1, List.of_mem_zip h1.2⟩

section accepted
variable {samples : List (List α)} {names : List String} {idl : Option (List Idl)} {o : Obs α}
  (h : mkObs samples names idl = .ok o)
include h

theorem mkObs_reps : List.Forall₂ (fun t r => mkRep t = .ok r) (mkTriples samples names idl) o.reps := by
  obtain ⟨_, reps, hM, rfl⟩ := mkObs_eq_ok.mp h
  exact mapM_eq_ok.mp hM

theorem mkObs_names : o.names = Py.sortBy (fun a b => a ≤ b) names := by
  obtain ⟨hlen, hil, _, _⟩ := (mkObs_eq_ok.mp h).1
  have : (mkTriples samples names idl).map (·.1) = Py.sortBy (fun a b => a ≤ b) names := by
    refine (Py.map_sortBy Prod.fst (fun (a b : String) => decide (a ≤ b)) _).trans ?_
    rw [List.map_fst_zip]
    rw [List.length_zip, length_mkIdls hlen hil, hlen, Nat.min_self]
  exact ((mkObs_reps h).map_eq fun t r htr => by
    obtain ⟨_, _, _, rfl⟩ := mkRep_eq_ok.mp htr; rfl).symm.trans this

theorem mkObs_names_of_sorted (hs : names.Pairwise (· < ·)) :
    o.names = names :=
  (mkObs_names h).trans (Py.sortBy_of_sorted _ _ (hs.imp fun h => by simpa using h.le))

theorem mkObs_covs : o.covs = [] ∧ o.reweighted = false := by
  obtain ⟨_, reps, _, rfl⟩ := mkObs_eq_ok.mp h
  exact ⟨rfl, rfl⟩

theorem mkObs_rep (hnd : names.Nodup) {t : String × Idl × List α}
    (ht : t ∈ List.zip names (List.zip (mkIdls samples idl) samples)) :
    ∃ r, o.rep? t.1 = some r ∧ mkRep t = .ok r := by
  obtain ⟨r, hr, htr⟩ := (mkObs_reps h).exists_of_mem_left (Py.mem_sortBy.mpr ht)
  have hn : r.name = t.1 := by obtain ⟨_, _, _, rfl⟩ := mkRep_eq_ok.mp htr; rfl
  refine ⟨r, hn ▸ Obs.rep?_of_mem ?_ hr, htr⟩
  rw [mkObs_names h]
  exact (Py.perm_sortBy _ names).nodup_iff.mpr hnd

end accepted

end PV
