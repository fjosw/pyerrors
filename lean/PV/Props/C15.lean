/-
  Property C15 — correlator derived quantities equal their defining formulas where defined.
  The theorems hold for every cell type and every temporal extent.
-/
import PV.Proofs.CorrLemmas
import PV.Props.C15Alg

namespace PV
open Scalar

variable {β : Type}

/-- padding: `ofCells cells a b` is undefined on the first `a` and the last `b` timeslices and
    holds `cells` in between -/
theorem c15_ofCells_cell (cells : List (Option β)) (a b t : Nat) :
    (Corr.ofCells cells a b).cell? t =
      (if t < a then none else (cells.getD (t - a) none)) :=
  ofCells_cell? cells a b t

/-- C15 (never raises while something is defined): the builder fails exactly when every output
    slice is undefined -/
theorem c15_build_fails_iff (T lo n padL padR : Nat) (f : Nat → Option β) :
    (∃ e, Corr.build (β := β) T lo n padL padR f = .error e) ↔ ∀ k, k < n → f (lo + k) = none := by
  simp only [Corr.build, ite_error_fails, all_isNone_iff, List.length_map, List.length_range]
  exact forall₂_congr fun k hk => by rw [getD_map_range _ _ hk]

section formulas
variable [Elem β]

/-! Every variant below is `if a.N != 1 then error else build T p (T - (p + q)) p q stencil`: `ite_error_eq_ok` drops
    the guard, `build_window` reads the cell at `t`, and a case split on the cells the stencil refers to identifies the
    `do` block of the model with the `match` of the statement.  The extent hypotheses `hT` of the statements are implied by
    `h` (`build_ok_pos`) and are not used. -/

/-- C15 (symmetric derivative): ½(C(t+1) - C(t-1)) on 1 ≤ t ≤ T-2, undefined exactly when a
    referenced slice is undefined, and at t = 0, T-1 -/
theorem c15_deriv_symmetric (a r : Corr β) (hT : 2 ≤ a.T) (h : a.deriv "symmetric" = .ok r) :
    r.T = a.T ∧ ∀ t, t < a.T → r.cell? t =
      (if 1 ≤ t ∧ t + 1 < a.T then
        (match a.cell? (t - 1), a.cell? (t + 1) with
         | some m, some p => some ((1 / 2 : β) * (p - m))
         | _, _ => none)
       else none) := by
  refine build_window (p := 1) (q := 1) (ite_error_eq_ok.1 h).2 fun t => ?_
  rcases a.cell? (t - 1) with _ | _
  · rfl
  cases a.cell? (t + 1) <;> rfl

/-- C15 (improved derivative): (C(t-2) - 8C(t-1) + 8C(t+1) - C(t+2))/12 on 2 ≤ t ≤ T-3 -/
theorem c15_deriv_improved (a r : Corr β) (hT : 4 ≤ a.T) (h : a.deriv "improved" = .ok r) :
    r.T = a.T ∧ ∀ t, t < a.T → r.cell? t =
      (if 2 ≤ t ∧ t + 2 < a.T then
        (match a.cell? (t - 2), a.cell? (t - 1), a.cell? (t + 1), a.cell? (t + 2) with
         | some m2, some m1, some p1, some p2 => some ((1 / 12 : β) * (m2 - 8 * m1 + 8 * p1 - p2))
         | _, _, _, _ => none)
       else none) := by
  refine build_window (p := 2) (q := 2) (ite_error_eq_ok.1 h).2 fun t => ?_
  rcases a.cell? (t - 2) with _ | _
  · rfl
  rcases a.cell? (t - 1) with _ | _
  · rfl
  rcases a.cell? (t + 1) with _ | _
  · rfl
  cases a.cell? (t + 2) <;> rfl

/-- C15 (symmetric second derivative): C(t+1) - 2C(t) + C(t-1), undefined when ANY of the three
    slices is undefined (including the central one) -/
theorem c15_second_symmetric (a r : Corr β) (hT : 2 ≤ a.T) (h : a.secondDeriv "symmetric" = .ok r) :
    r.T = a.T ∧ ∀ t, t < a.T → r.cell? t =
      (if 1 ≤ t ∧ t + 1 < a.T then
        (match a.cell? (t - 1), a.cell? t, a.cell? (t + 1) with
         | some m, some x, some p => some (p - 2 * x + m)
         | _, _, _ => none)
       else none) := by
  refine build_window (p := 1) (q := 1) (ite_error_eq_ok.1 h).2 fun t => ?_
  rcases a.cell? (t - 1) with _ | _
  · rfl
  rcases a.cell? t with _ | _
  · rfl
  cases a.cell? (t + 1) <;> rfl

/-- C15 (big symmetric second derivative): (C(t+2) - 2C(t) + C(t-2))/4 on 2 ≤ t ≤ T-3 -/
theorem c15_second_big_symmetric (a r : Corr β) (hT : 4 ≤ a.T) (h : a.secondDeriv "big_symmetric" = .ok r) :
    r.T = a.T ∧ ∀ t, t < a.T → r.cell? t =
      (if 2 ≤ t ∧ t + 2 < a.T then
        (match a.cell? (t - 2), a.cell? t, a.cell? (t + 2) with
         | some m, some x, some p => some ((p - 2 * x + m) / 4)
         | _, _, _ => none)
       else none) := by
  refine build_window (p := 2) (q := 2) (ite_error_eq_ok.1 h).2 fun t => ?_
  rcases a.cell? (t - 2) with _ | _
  · rfl
  rcases a.cell? t with _ | _
  · rfl
  cases a.cell? (t + 2) <;> rfl

/-- C15 (forward derivative): C(t+1) - C(t) on 0 ≤ t ≤ T-2, undefined at T-1 -/
theorem c15_deriv_forward (a r : Corr β) (hT : 1 ≤ a.T) (h : a.deriv "forward" = .ok r) :
    r.T = a.T ∧ ∀ t, t < a.T → r.cell? t =
      (if t + 1 < a.T then
        (match a.cell? t, a.cell? (t + 1) with
         | some x, some p => some (p - x)
         | _, _ => none)
       else none) := by
  obtain ⟨h1, h2⟩ := build_window (p := 0) (q := 1) (ite_error_eq_ok.1 h).2 fun _ => rfl
  refine ⟨h1, fun t ht => (h2 t ht).trans (if_congr (and_iff_right t.zero_le) ?_ rfl)⟩
  rcases a.cell? t with _ | _
  · rfl
  cases a.cell? (t + 1) <;> rfl

/-- C15 (backward derivative): C(t) - C(t-1) on 1 ≤ t ≤ T-1, undefined at 0 -/
theorem c15_deriv_backward (a r : Corr β) (hT : 1 ≤ a.T) (h : a.deriv "backward" = .ok r) :
    r.T = a.T ∧ ∀ t, t < a.T → r.cell? t =
      (if 1 ≤ t then
        (match a.cell? (t - 1), a.cell? t with
         | some m, some x => some (x - m)
         | _, _ => none)
       else none) := by
  obtain ⟨h1, h2⟩ := build_window (p := 1) (q := 0) (ite_error_eq_ok.1 h).2 fun _ => rfl
  refine ⟨h1, fun t ht => (h2 t ht).trans (if_congr (and_iff_left ht) ?_ rfl)⟩
  rcases a.cell? (t - 1) with _ | _
  · rfl
  cases a.cell? t <;> rfl

/-- C15 (improved second derivative): (-C(t+2) + 16C(t+1) - 30C(t) + 16C(t-1) - C(t-2))/12 on 2 ≤ t ≤ T-3,
    undefined exactly when one of the five slices is -/
theorem c15_second_improved (a r : Corr β) (hT : 4 ≤ a.T) (h : a.secondDeriv "improved" = .ok r) :
    r.T = a.T ∧ ∀ t, t < a.T → r.cell? t =
      (if 2 ≤ t ∧ t + 2 < a.T then
        (match a.cell? (t - 2), a.cell? (t - 1), a.cell? t, a.cell? (t + 1), a.cell? (t + 2) with
         | some m2, some m1, some x, some p1, some p2 => some ((1 / 12 : β) * (-p2 + 16 * p1 - 30 * x + 16 * m1 - m2))
         | _, _, _, _, _ => none)
       else none) := by
  refine build_window (p := 2) (q := 2) (ite_error_eq_ok.1 h).2 fun t => ?_
  rcases a.cell? (t - 2) with _ | _
  · rfl
  rcases a.cell? (t - 1) with _ | _
  · rfl
  rcases a.cell? t with _ | _
  · rfl
  rcases a.cell? (t + 1) with _ | _
  · rfl
  cases a.cell? (t + 2) <;> rfl

/-- C15 (effective mass, log variant): log(C(t)/C(t+1)) on 0 ≤ t ≤ T-2, undefined when a referenced slice is
    undefined, C(t+1) vanishes or the ratio is negative -/
theorem c15_meff_log (a r : Corr β) (root : Nat → β → β) (hT : 1 ≤ a.T) (h : a.mEff "log" root = .ok r) :
    r.T = a.T ∧ ∀ t, t < a.T → r.cell? t =
      (if t + 1 < a.T then
        (match a.cell? t, a.cell? (t + 1) with
         | some x, some p => if Scalar.isZero p then none else if x / p < 0 then none else some (Transc.log (x / p))
         | _, _ => none)
       else none) := by
  obtain ⟨r0, hr0, h⟩ := Except.bind_eq_ok.mp (ite_error_eq_ok.1 h).2
  cases h
  obtain ⟨h1, h2⟩ := build_window (p := 0) (q := 1) hr0 fun _ => rfl
  refine ⟨(List.length_map _).trans h1, fun t ht => ?_⟩
  rw [mapCells_cell, h2 t ht, apply_ite (Option.map Transc.log)]
  refine if_congr (and_iff_right t.zero_le) ?_ rfl
  rcases a.cell? t with _ | x
  · rfl
  rcases a.cell? (t + 1) with _ | p
  · rfl
  show Option.map Transc.log (if Scalar.isZero p = true then none else if x / p < 0 then none else some (x / p)) = _
  simp only [apply_ite (Option.map Transc.log)]
  rfl

/-- C15 (plateau by average): the mean of the defined slices of the inclusive range -/
theorem c15_plateau_avg (a : Corr β) (lo hi : Nat) (x : β) (h : a.plateauAvg lo hi = .ok x) :
    let xs := (List.range (hi + 1 - lo)).filterMap (fun k => a.cell? (lo + k))
    xs ≠ [] ∧ x = Scalar.sum xs / ofNatS xs.length := by
  simp only [Corr.plateauAvg, ite_error_eq_ok, Except.ok.injEq] at h
  exact ⟨fun h0 => h.2.1 (List.isEmpty_iff.2 h0), h.2.2.symm⟩

end formulas

end PV
