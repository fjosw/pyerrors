/-
  C16 — the mathematics: the GEVP solver and the matrix-pencil method satisfy the generalised eigen-equation and recover
  the exact spectrum of an N-state model.  The exact correlator matrix is `C(t) = Ψᵀ diag(exp(-E_k t)) Ψ` (`corrModel`)
  with an invertible overlap matrix `Ψ`, its generalised eigenvectors are `v_k = Ψ⁻¹ e_k` (`gevpVec`).  All matrices are
  real; every theorem holds for every finite size.
-/
import Mathlib.LinearAlgebra.Vandermonde
import Mathlib.Analysis.SpecialFunctions.Exp
import PV.Proofs.MatrixAlg

namespace PV
open Matrix

namespace C16
section model
variable {ι : Type*} [Fintype ι] [DecidableEq ι]

noncomputable def corrModel (Ψ : Matrix ι ι ℝ) (E : ι → ℝ) (t : ℝ) : Matrix ι ι ℝ :=
  Ψᵀ * diagonal (fun k => Real.exp (-(E k) * t)) * Ψ

noncomputable def gevpVec (Ψ : Matrix ι ι ℝ) (k : ι) : ι → ℝ :=
  Ψ⁻¹ *ᵥ Pi.single k 1

/-- the basis onto which `Corr.prune` projects: column `j` is `v_{s j}` -/
noncomputable def pruneMat {μ : Type*} (Ψ : Matrix ι ι ℝ) (s : μ → ι) : Matrix ι μ ℝ :=
  Matrix.of fun i j => gevpVec Ψ (s j) i

lemma corrModel_mulVec_gevpVec (Ψ : Matrix ι ι ℝ) (hΨ : IsUnit Ψ.det) (E : ι → ℝ) (k : ι)
    (t : ℝ) :
    corrModel Ψ E t *ᵥ gevpVec Ψ k = Real.exp (-(E k) * t) • (Ψᵀ *ᵥ Pi.single k 1) := by
  unfold corrModel gevpVec
  rw [mulVec_mulVec, mul_nonsing_inv_cancel_right _ _ hΨ, ← mulVec_mulVec,
    diagonal_mulVec_single, ← smul_eq_mul, Pi.single_smul, mulVec_smul]

lemma mulVec_gevpVec (Ψ : Matrix ι ι ℝ) (hΨ : IsUnit Ψ.det) (k : ι) :
    Ψ *ᵥ gevpVec Ψ k = Pi.single k 1 := by
  unfold gevpVec
  rw [mulVec_mulVec, mul_nonsing_inv _ hΨ, one_mulVec]

lemma gevpVec_dot_corrModel (Ψ : Matrix ι ι ℝ) (hΨ : IsUnit Ψ.det) (E : ι → ℝ) (j k : ι)
    (t : ℝ) :
    gevpVec Ψ j ⬝ᵥ (corrModel Ψ E t *ᵥ gevpVec Ψ k)
      = if j = k then Real.exp (-(E k) * t) else 0 := by
  rw [corrModel_mulVec_gevpVec Ψ hΨ, dotProduct_smul, dotProduct_mulVec, vecMul_transpose,
    mulVec_gevpVec Ψ hΨ, single_dotProduct, one_mul, smul_eq_mul, Pi.single_apply, mul_ite, mul_one,
    mul_zero]

end model
end C16
open C16

section spectrum
variable {ι : Type*} [Fintype ι] [DecidableEq ι]

/-- **C16.1 (GEVP recovers the exact spectrum).**  For the exact N-state model `C(t) = Ψᵀ diag(exp(-E_k t)) Ψ` with `Ψ`
    invertible, `v_k = Ψ⁻¹ e_k` satisfies `C(t) v_k = exp(-E_k (t - t0)) · C(t0) v_k` for all real `t`, `t0`: the
    generalised eigenvalue problem `G(t) v = λ G(t0) v` solved by `Corr.GEVP` has the solution `λ = exp(-E_k (t - t0))`. -/
theorem c16_exact_spectrum (Ψ : Matrix ι ι ℝ) (hΨ : IsUnit Ψ.det) (E : ι → ℝ) (k : ι)
    (t t0 : ℝ) :
    corrModel Ψ E t *ᵥ (Ψ⁻¹ *ᵥ Pi.single k 1)
      = Real.exp (-(E k) * (t - t0)) • (corrModel Ψ E t0 *ᵥ (Ψ⁻¹ *ᵥ Pi.single k 1)) := by
  have h := corrModel_mulVec_gevpVec Ψ hΨ E k
  unfold gevpVec at h
  rw [h, h, smul_smul, ← Real.exp_add]
  congr 2
  ring

/-- non-vacuity of `c16_exact_spectrum`: a non-diagonal invertible 2×2 overlap matrix -/
example : IsUnit (!![1, 2; 3, 4] : Matrix (Fin 2) (Fin 2) ℝ).det := by
  rw [Matrix.det_fin_two_of]; norm_num

/-- **C16.2 (projected correlator is a single exponential).**  With `v_k = Ψ⁻¹ e_k` (`Ψ` invertible):
    `v_k · C(t) v_k = exp(-E_k t)`; the rescaled `w = exp(E_k t0 / 2) · v_k` has the GEVP normalisation
    `w · C(t0) w = 1`, and with it `w · C(t) w = exp(-E_k (t - t0))`: projecting the correlator matrix onto a GEVP
    eigenvector (`Corr.projected`) yields the pure exponential of state `k`. -/
theorem c16_projected_exponential (Ψ : Matrix ι ι ℝ) (hΨ : IsUnit Ψ.det) (E : ι → ℝ) (k : ι)
    (t t0 : ℝ) :
    (Ψ⁻¹ *ᵥ Pi.single k 1) ⬝ᵥ (corrModel Ψ E t *ᵥ (Ψ⁻¹ *ᵥ Pi.single k 1))
        = Real.exp (-(E k) * t)
    ∧ (Real.exp (E k * t0 / 2) • (Ψ⁻¹ *ᵥ Pi.single k 1))
        ⬝ᵥ (corrModel Ψ E t0 *ᵥ (Real.exp (E k * t0 / 2) • (Ψ⁻¹ *ᵥ Pi.single k 1))) = 1
    ∧ (Real.exp (E k * t0 / 2) • (Ψ⁻¹ *ᵥ Pi.single k 1))
        ⬝ᵥ (corrModel Ψ E t *ᵥ (Real.exp (E k * t0 / 2) • (Ψ⁻¹ *ᵥ Pi.single k 1)))
        = Real.exp (-(E k) * (t - t0)) := by
  have key : ∀ s : ℝ, gevpVec Ψ k ⬝ᵥ (corrModel Ψ E s *ᵥ gevpVec Ψ k) = Real.exp (-(E k) * s) :=
    fun s => (gevpVec_dot_corrModel Ψ hΨ E k k s).trans (if_pos rfl)
  have scaled : ∀ s : ℝ, (Real.exp (E k * t0 / 2) • gevpVec Ψ k)
        ⬝ᵥ (corrModel Ψ E s *ᵥ (Real.exp (E k * t0 / 2) • gevpVec Ψ k))
        = Real.exp (-(E k) * (s - t0)) := by
    intro s
    rw [mulVec_smul, smul_dotProduct, dotProduct_smul, key s, smul_eq_mul, smul_eq_mul,
      ← Real.exp_add, ← Real.exp_add]
    congr 1
    ring
  exact ⟨key t, (scaled t0).trans (by rw [sub_self, mul_zero, Real.exp_zero]), scaled t⟩

/-- non-vacuity of `c16_projected_exponential`: a non-diagonal invertible overlap matrix, energies `(1/2, 6/5)`,
    state 1, `t = 3`, `t0 = 1` -/
example :
    let Ψ : Matrix (Fin 2) (Fin 2) ℝ := !![1, 2; 3, 4]
    let E : Fin 2 → ℝ := ![1/2, 6/5]
    (Ψ⁻¹ *ᵥ Pi.single 1 1) ⬝ᵥ (corrModel Ψ E 3 *ᵥ (Ψ⁻¹ *ᵥ Pi.single 1 1))
      = Real.exp (-(6/5) * 3) := by
  exact (c16_projected_exponential _ (by rw [Matrix.det_fin_two_of]; norm_num) _ 1 3 1).1

end spectrum

section cholesky
variable {ι : Type*} [Fintype ι] [DecidableEq ι]

/-- **C16.3 (the Cholesky route is equivalent to the generalised problem).**  If `G0 = L Lᵀ` with `L` invertible (what a
    Cholesky factor of a positive definite `G(t0)` provides), `w` is an eigenvector of `L⁻¹ Gt L⁻ᵀ` with eigenvalue `lam`
    iff `u = L⁻ᵀ w` solves `Gt u = lam · G0 u`: `_GEVP_solver` diagonalises `L⁻¹ G(t) L⁻ᵀ` and back-transforms with `L⁻ᵀ`. -/
theorem c16_cholesky_equivalence (G0 Gt L : Matrix ι ι ℝ) (hL : IsUnit L.det)
    (hG0 : G0 = L * Lᵀ) (w : ι → ℝ) (lam : ℝ) :
    (L⁻¹ * Gt * (L⁻¹)ᵀ) *ᵥ w = lam • w
      ↔ Gt *ᵥ ((L⁻¹)ᵀ *ᵥ w) = lam • (G0 *ᵥ ((L⁻¹)ᵀ *ᵥ w)) := by
  have hLT : Lᵀ * (L⁻¹)ᵀ = 1 := by
    rw [← transpose_mul, nonsing_inv_mul _ hL, transpose_one]
  have hG0u : G0 *ᵥ ((L⁻¹)ᵀ *ᵥ w) = L *ᵥ w := by
    rw [hG0, mulVec_mulVec, Matrix.mul_assoc, hLT, Matrix.mul_one]
  rw [← mulVec_mulVec, ← mulVec_mulVec, hG0u, ← mulVec_smul, eq_comm, ← MatrixAlg.mulVec_eq_iff_eq_inv_mulVec hL]
  exact eq_comm

/-- non-vacuity of `c16_cholesky_equivalence`: a lower-triangular Cholesky factor and the positive definite matrix it
    generates -/
example : ∃ (G0 L : Matrix (Fin 2) (Fin 2) ℝ), IsUnit L.det ∧ G0 = L * Lᵀ :=
  ⟨_, !![2, 0; 1, 3], by rw [Matrix.det_fin_two_of]; norm_num, rfl⟩

end cholesky

/-- **C16.4 (state 0 is the largest eigenvalue).**  The reverse of a list sorted ascending (as the symmetric eigen-solver
    returns the eigenvalues) is sorted descending and its head is the maximum of the list: the `[::-1]` after `eigh` makes
    state 0 the largest eigenvalue, i.e. the lowest energy. -/
theorem c16_order_reverse (l : List ℝ) (h : l.SortedLE) :
    l.reverse.SortedGE
    ∧ l.reverse.Pairwise (· ≥ ·)
    ∧ (∀ hne : l.reverse ≠ [],
        l.reverse.head hne ∈ l ∧ ∀ x ∈ l, x ≤ l.reverse.head hne)
    ∧ l.reverse.head? = l.max? := by
  have hs : l.reverse.SortedGE := List.sortedGE_reverse.mpr h
  have hp : l.reverse.Pairwise (· ≥ ·) := hs.pairwise
  have hmax : ∀ hne : l.reverse ≠ [],
      l.reverse.head hne ∈ l ∧ ∀ x ∈ l, x ≤ l.reverse.head hne := fun hne =>
    ⟨List.mem_reverse.mp (List.head_mem hne), fun x hx => hp.rel_head (List.mem_reverse.mpr hx)⟩
  refine ⟨hs, hp, hmax, ?_⟩
  by_cases hne : l.reverse = []
  · rw [List.reverse_eq_nil_iff.mp hne]
    rfl
  · rw [List.head?_eq_some_head hne, eq_comm, List.max?_eq_some_iff]
    exact hmax hne

/-- non-vacuity of `c16_order_reverse`: an ascending list -/
example : ([1, 2, 5] : List ℝ).SortedLE := by
  rw [List.sortedLE_iff_pairwise]
  simp; norm_num

namespace C16
section hankeldefs

/-- an exact multi-exponential single correlator `y(t) = Σ_k a_k z_k^t` (in the property `z_k = exp(-E_k)`) -/
def signal {κ : Type*} [Fintype κ] (a z : κ → ℝ) (t : ℕ) : ℝ := ∑ k, a k * z k ^ t

def vander {κ : Type*} (z : κ → ℝ) (q : ℕ) : Matrix κ (Fin q) ℝ :=
  Matrix.of fun k j => z k ^ (j : ℕ)

def hankel (y : ℕ → ℝ) (p q d : ℕ) : Matrix (Fin p) (Fin q) ℝ :=
  Matrix.of fun i j => y ((i : ℕ) + (j : ℕ) + d)

@[simp] lemma hankel_zero_apply (y : ℕ → ℝ) (p q : ℕ) (i : Fin p) (j : Fin q) :
    hankel y p q 0 i j = y ((i : ℕ) + (j : ℕ)) := rfl

@[simp] lemma hankel_one_apply (y : ℕ → ℝ) (p q : ℕ) (i : Fin p) (j : Fin q) :
    hankel y p q 1 i j = y ((i : ℕ) + (j : ℕ) + 1) := rfl

@[simp] lemma vander_apply {κ : Type*} (z : κ → ℝ) (q : ℕ) (k : κ) (j : Fin q) :
    vander z q k j = z k ^ (j : ℕ) := rfl

lemma vander_eq_vandermonde {n : ℕ} (z : Fin n → ℝ) : vander z n = Matrix.vandermonde z := rfl

lemma hankel_signal_eq {κ : Type*} [Fintype κ] [DecidableEq κ] (a z : κ → ℝ) (p q d : ℕ) :
    hankel (signal a z) p q d
      = (vander z p)ᵀ * diagonal (fun k => a k * z k ^ d) * vander z q := by
  ext i j
  simp only [hankel, signal, vander, Matrix.of_apply, Matrix.mul_apply, Matrix.transpose_apply,
    Matrix.diagonal_apply, mul_ite, mul_zero, Finset.sum_ite_eq', Finset.mem_univ, if_true]
  refine Finset.sum_congr rfl fun k _ => ?_
  ring

end hankeldefs
end C16

section hankel

/-- **C16.5 (matrix pencil method recovers `z_k = exp(-E_k)`).**  For the signal `y(t) = Σ_k a_k z_k^t` (`n` states) and
    the Vandermonde matrix `V k j = z_k ^ j`:
    * every `p × q` Hankel matrix `H i j = y(i + j)` factors as `V_pᵀ · diag(a) · V_q`, the shifted one
      `H' i j = y(i + j + 1)` as `V_pᵀ · diag(a·z) · V_q`;
    * in the square `n × n` case with `V` invertible (equivalent to the `z_k` being pairwise distinct),
      `H' = H · (V⁻¹ · diag(z) · V)`;
    * if moreover all `a_k ≠ 0`, `H` is invertible and `H⁻¹ H' = V⁻¹ · diag(z) · V`: the pencil matrix is similar to
      `diag(z)`, its eigenvalues are exactly the `z_k`.
    `matrix_pencil_method` forms the pencil the other way round: with `y1 = H`, `y2 = H' = U S Vᵀ` it diagonalises
    `S⁻¹ Uᵀ y1 V`, in the exact square case similar to `H'⁻¹ H`, the inverse of the matrix above; its eigenvalues are
    `1 / z_k = exp(E_k)`, the energies their logarithms. -/
theorem c16_hankel_factor {n : ℕ} (a z : Fin n → ℝ) :
    (∀ p q : ℕ, hankel (signal a z) p q 0 = (vander z p)ᵀ * diagonal a * vander z q)
    ∧ (∀ p q : ℕ, hankel (signal a z) p q 1
        = (vander z p)ᵀ * diagonal (fun k => a k * z k) * vander z q)
    ∧ (IsUnit (Matrix.vandermonde z).det →
        hankel (signal a z) n n 1
          = hankel (signal a z) n n 0
              * ((Matrix.vandermonde z)⁻¹ * diagonal z * Matrix.vandermonde z))
    ∧ (IsUnit (Matrix.vandermonde z).det → (∀ k, a k ≠ 0) →
        IsUnit (hankel (signal a z) n n 0).det
        ∧ (hankel (signal a z) n n 0)⁻¹ * hankel (signal a z) n n 1
            = (Matrix.vandermonde z)⁻¹ * diagonal z * Matrix.vandermonde z) := by
  have h0 := fun p q => hankel_signal_eq a z p q 0
  have h1 := fun p q => hankel_signal_eq a z p q 1
  simp only [pow_zero, mul_one] at h0
  simp only [pow_one] at h1
  have hshift : IsUnit (Matrix.vandermonde z).det →
      hankel (signal a z) n n 1
        = hankel (signal a z) n n 0
            * ((Matrix.vandermonde z)⁻¹ * diagonal z * Matrix.vandermonde z) := by
    intro hV
    rw [h0, h1, vander_eq_vandermonde, ← diagonal_mul_diagonal]
    simp only [Matrix.mul_assoc, Matrix.mul_nonsing_inv_cancel_left _ _ hV]
  refine ⟨h0, h1, hshift, ?_⟩
  intro hV ha
  have hH : IsUnit (hankel (signal a z) n n 0).det := by
    rw [h0, vander_eq_vandermonde, det_mul, det_mul, det_transpose, det_diagonal]
    refine (hV.mul ?_).mul hV
    rw [isUnit_iff_ne_zero]
    exact Finset.prod_ne_zero_iff.mpr fun k _ => ha k
  refine ⟨hH, ?_⟩
  rw [hshift hV, nonsing_inv_mul_cancel_left _ _ hH]

/-- non-vacuity of `c16_hankel_factor`: two distinct decay factors give an invertible Vandermonde matrix, and the
    amplitudes are non-zero -/
example : IsUnit (Matrix.vandermonde (![1/2, 1/3] : Fin 2 → ℝ)).det
    ∧ ∀ k, (![2, 5] : Fin 2 → ℝ) k ≠ 0 := by
  constructor
  · rw [isUnit_iff_ne_zero, Matrix.det_vandermonde_ne_zero_iff]
    intro i j hij
    fin_cases i <;> fin_cases j <;> simp at hij ⊢
  · intro k; fin_cases k <;> simp

end hankel

section prune
variable {ι : Type*} [Fintype ι] [DecidableEq ι]
variable {μ : Type*} [DecidableEq μ]

/-- **C16.6 (prune preserves the retained energies).**  Let `P` have the columns `v_{s j} = Ψ⁻¹ e_{s j}` for an injective
    selection `s` of states (`Ψ` invertible).  Then `Pᵀ C(t) P = diag(exp(-E_{s j} t))`: `Corr.prune`, which
    projects the correlator matrix onto GEVP vectors, keeps exactly the retained energies. -/
theorem c16_prune_projection (Ψ : Matrix ι ι ℝ) (hΨ : IsUnit Ψ.det) (E : ι → ℝ)
    (s : μ → ι) (hs : Function.Injective s) (t : ℝ) :
    (pruneMat Ψ s)ᵀ * corrModel Ψ E t * pruneMat Ψ s
      = diagonal (fun j => Real.exp (-(E (s j)) * t)) := by
  ext j j'
  have hentry : ((pruneMat Ψ s)ᵀ * corrModel Ψ E t * pruneMat Ψ s) j j'
      = gevpVec Ψ (s j) ⬝ᵥ (corrModel Ψ E t *ᵥ gevpVec Ψ (s j')) := by
    rw [Matrix.mul_assoc, Matrix.mul_apply]
    simp only [dotProduct, mulVec, pruneMat, Matrix.transpose_apply, Matrix.of_apply,
      Matrix.mul_apply]
  rw [hentry, gevpVec_dot_corrModel Ψ hΨ, Matrix.diagonal_apply]
  by_cases h : j = j'
  · rw [if_pos h, if_pos (congrArg s h), h]
  · rw [if_neg h, if_neg fun e => h (hs e)]

/-- non-vacuity of `c16_prune_projection`: keep states 0 and 2 of a 3-state model -/
example : Function.Injective (![0, 2] : Fin 2 → Fin 3) := by decide

end prune

section symm
variable {ι : Type*} [Fintype ι]

/-- **C16.7 (non-symmetric input is symmetrised first).**  `(1/2)(G + Gᵀ)` (`Corr.matrix_symmetric`, applied before the
    GEVP) is symmetric, is `G` when `G` is already symmetric, and has the quadratic form of `G`. -/
theorem c16_symmetrize (G : Matrix ι ι ℝ) :
    ((1 / 2 : ℝ) • (G + Gᵀ)).IsSymm
    ∧ (G.IsSymm → (1 / 2 : ℝ) • (G + Gᵀ) = G)
    ∧ ∀ v : ι → ℝ, v ⬝ᵥ (((1 / 2 : ℝ) • (G + Gᵀ)) *ᵥ v) = v ⬝ᵥ (G *ᵥ v) := by
  refine ⟨(Matrix.isSymm_add_transpose_self G).smul _, ?_, ?_⟩
  · intro hG
    rw [hG.eq, ← two_smul ℝ G, smul_smul]
    norm_num
  · intro v
    rw [smul_mulVec, add_mulVec, dotProduct_smul, dotProduct_add, ← MatrixAlg.bilin_transpose G v v, smul_eq_mul]
    ring

/-- non-vacuity of the middle clause of `c16_symmetrize`: a symmetric non-diagonal matrix -/
example : (!![1, 2; 2, 3] : Matrix (Fin 2) (Fin 2) ℝ).IsSymm :=
  MatrixAlg.transpose_fin_two 1 2 2 3

end symm

end PV

