/-
  The Wolff analysis as a function of Γ(0) and the normalised autocorrelation ρ: `Spec.analyse` uses the Γ table only
  through these two (`analyse_eq_core`, by `rfl`), and Γ(0) enters only the two error formulas.  Hence multiplying the
  data by c leaves τ_int, its error, the window, ρ and δρ unchanged and multiplies the errors by |c|.
-/
import PV.Spec.Wolff
import PV.Proofs.RealScalar
import PV.Proofs.Basic
import Mathlib.Data.List.GetD

namespace PV.C03b
open Scalar Transc

variable {α : Type} [Transc α]

/-- the part of `Spec.analyse` after the zero-variance guard, as a function of Γ(0) and ρ (same text) -/
def core (fp : FpConsts α) (ens : String) (eN : α) (wmax : Nat) (g0 : α) (rhoL : List α)
    (S tauExp nSigma : α) : Except GmErr (EnsResult α) :=
  let zero : List α := List.replicate wmax 0
  let rho : Nat → α := fun t => rhoL.getD t 0
  -- τ(W) = 1/2 + Σ_{t=1}^{W} ρ(t), clamped above 1/2
  let tauRaw : Nat → α := fun W => fp.half + sum ((List.range W).map (fun t => rho (t + 1)))
  let nTau : List α := (List.range wmax).map (fun W =>
    if tauRaw W ≤ fp.half then fp.half + fp.eps else tauRaw W)
  let tau : Nat → α := fun W => nTau.getD W 0
  let dtau : Nat → α := fun W =>
    if W = 0 then 0 else tau W * 2 * sqrt (absS (ofNatS W + fp.half - tau W) / eN)
  let drho : Nat → α := fun i => sqrt (Spec.drhoSq rho wmax eN i)
  let bias : Nat → α := fun W => tau W * (1 + (2 * ofNatS W + 1) / eN) / (1 + 1 / eN)
  let nDtau := (List.range wmax).map dtau
  if 0 < tauExp then
    if wmax / 2 ≤ 1 then .error .tauExpTooShort else
    -- first n in 1 .. wmax/2 - 1 with ρ(n) - Nσ δρ(n) < 0, or n ≥ wmax/2 - 2
    let stop : Nat → Bool := fun n => rho n - nSigma * drho n < 0 ∨ (n : Int) ≥ ((wmax / 2 : Nat) : Int) - 2
    match (List.range (wmax / 2 - 1)).find? (fun k => stop (k + 1)) with
    | none => .error .tauExpTooShort
    | some k =>
      let W := k + 1
      let t := bias W + tauExp * absS (rho (W + 1))
      let dt := sqrt (dtau W * dtau W + tauExp * tauExp * (drho (W + 1) * drho (W + 1)))
      let dv := sqrt (2 * t * g0 * (1 + 1 / eN) / eN)
      .ok { ens := ens, tauint := t, dtauint := dt, dvalue := dv,
            ddvalue := dv * sqrt ((ofNatS W + fp.half) / eN), windowsize := W,
            rho := rhoL,
            drho := (List.range wmax).map (fun i => if 1 ≤ i ∧ i ≤ W + 1 then drho i else 0),
            nTauint := nTau, nDtauint := nDtau,
            margin := minAbs ((List.range W).map (fun k => rho (k + 1) - nSigma * drho (k + 1))) }
  else if isZero S then
    let dv := sqrt (g0 / (eN - 1))
    .ok { ens := ens, tauint := fp.half, dtauint := 0, dvalue := dv,
          ddvalue := dv * sqrt (fp.half / eN), windowsize := 0,
          rho := rhoL, drho := zero, nTauint := nTau, nDtauint := nDtau, margin := 1 }
  else
    if wmax ≤ 1 then .error .tauExpTooShort else
    let tauS : Nat → α := fun n => S / log ((2 * tau n + 1) / (2 * tau n - 1))
    let g : Nat → α := fun n => exp (-(ofNatS n) / tauS n) - tauS n / sqrt (ofNatS n * eN)
    let W := Spec.window g wmax
    let t := bias W
    let dv := sqrt (2 * t * g0 * (1 + 1 / eN) / eN)
    .ok { ens := ens, tauint := t, dtauint := dtau W, dvalue := dv,
          ddvalue := dv * sqrt ((ofNatS W + fp.half) / eN), windowsize := W,
          rho := rhoL, drho := (List.range wmax).map (fun i => if i = W then drho i else 0),
          nTauint := nTau, nDtauint := nDtau,
          margin := minAbs ((List.range W).map (fun k => g (k + 1))) }


theorem analyse_eq_core (fp : FpConsts α) (ens : String) (eN : α) (wmax : Nat) (Gtab : List α) (S tauExp nSigma : α) :
    Spec.analyse fp ens eN wmax Gtab S tauExp nSigma =
      if absS (Gtab.getD 0 0) < fp.tenTiny then
        .ok { ens := ens, tauint := fp.half, dtauint := 0, dvalue := 0, ddvalue := 0, windowsize := 0,
              rho := List.replicate wmax 0, drho := List.replicate wmax 0, nTauint := [], nDtauint := [], margin := 1 }
      else core fp ens eN wmax (Gtab.getD 0 0) (Gtab.map (· / Gtab.getD 0 0)) S tauExp nSigma := rfl

theorem ensemble_eq_analyse (fp : FpConsts α) (ens : String) (reps : List (Rep α)) (gap : Int) (wmax : Nat)
    (S tauExp nSigma : α) :
    Spec.ensemble fp ens reps gap wmax S tauExp nSigma =
      Spec.analyse fp ens (ofNatS ((reps.map (·.idl.len)).foldr (· + ·) 0)) wmax
        ((List.range wmax).map (Spec.gamma reps gap)) S tauExp nSigma := rfl

open RealS

def scaleRes (s : ℝ) (r : EnsResult ℝ) : EnsResult ℝ :=
  { r with dvalue := s * r.dvalue, ddvalue := s * r.ddvalue }

theorem getD_map_mul (c : ℝ) (l : List ℝ) (n : Nat) : (l.map (c * ·)).getD n 𝟘 = c * l.getD n 𝟘 := by
  rw [← List.getD_map l 𝟘 (c * ·), ofNat_eq_lit, lit_eq, Nat.cast_zero, mul_zero]

/-- Γ(0) enters `core` only under the square roots of the two errors -/
theorem core_scale (fp : FpConsts ℝ) (ens : String) (eN : ℝ) (wmax : Nat) (g0 : ℝ) (rhoL : List ℝ)
    (S te ns k : ℝ) (hk : 0 ≤ k) :
    core fp ens eN wmax (k * g0) rhoL S te ns = (core fp ens eN wmax g0 rhoL S te ns).map (scaleRes (Real.sqrt k)) := by
  have hs : ∀ x : ℝ, Transc.sqrt (k * x) = Real.sqrt k * Transc.sqrt x := fun x => Real.sqrt_mul hk x
  have e3 : ∀ a b c : ℝ, Transc.sqrt (a * (k * g0) * b / c) = Real.sqrt k * Transc.sqrt (a * g0 * b / c) := by
    intro a b c; rw [← hs]; congr 1; ring
  have e4 : ∀ c : ℝ, Transc.sqrt (k * g0 / c) = Real.sqrt k * Transc.sqrt (g0 / c) := by
    intro c; rw [← hs]; congr 1; ring
  unfold core
  extract_lets zero rho tauRaw nTau tau dtau drho bias nDtau stop dv1 tauS g W t dv2 dv1' dv2'
  -- `Except.map` goes into the branches, which are compared one by one
  rw [apply_ite (Except.map _)]
  refine ite_congr rfl (fun _ => ?_) fun _ => ?_
  · rw [apply_ite (Except.map _)]
    refine ite_congr rfl (fun _ => rfl) fun _ => ?_
    cases List.find? (fun k => stop (k + 1)) (List.range (wmax / 2 - 1)) with
    | none => rfl
    | some k1 =>
      simp only [Except.map, scaleRes]
      rw [e3, mul_assoc (Real.sqrt k)]
  · rw [apply_ite (Except.map _)]
    refine ite_congr rfl (fun _ => ?_) fun _ => ?_
    · simp only [Except.map, scaleRes, dv1, dv1']
      rw [e4, mul_assoc (Real.sqrt k)]
    · rw [apply_ite (Except.map _)]
      refine ite_congr rfl (fun _ => rfl) fun _ => ?_
      simp only [Except.map, scaleRes, dv2, dv2']
      rw [e3, mul_assoc (Real.sqrt k)]

theorem analyse_scale (fp : FpConsts ℝ) (ens : String) (eN : ℝ) (wmax : Nat) (G : List ℝ) (S te ns k : ℝ)
    (hk : 0 < k)
    (hg1 : ¬ absS (G.getD 0 𝟘) < fp.tenTiny) (hg2 : ¬ absS (k * G.getD 0 𝟘) < fp.tenTiny) :
    Spec.analyse fp ens eN wmax (G.map (k * ·)) S te ns
      = (Spec.analyse fp ens eN wmax G S te ns).map (scaleRes (Real.sqrt k)) := by
  rw [analyse_eq_core, analyse_eq_core, getD_map_mul, if_neg hg1, if_neg hg2]
  have hr : (G.map (k * ·)).map (· / (k * G.getD 0 𝟘)) = G.map (· / G.getD 0 𝟘) := by
    rw [List.map_map]
    exact List.map_congr_left fun x _ => mul_div_mul_left x _ hk.ne'
  rw [hr]
  exact core_scale fp ens eN wmax _ _ S te ns k hk.le

def scaleRep (c : ℝ) (r : Rep ℝ) : Rep ℝ := { r with deltas := r.deltas.map (c * ·), rvalue := c * r.rvalue }

theorem fluct_scale (c : ℝ) (r : Rep ℝ) (cfg : Int) : Spec.fluct (scaleRep c r) cfg = c * Spec.fluct r cfg := by
  unfold Spec.fluct scaleRep
  cases r.idl.pos? cfg with
  | none => simp [ofNat_eq_lit, lit_eq]
  | some k => exact getD_map_mul c r.deltas k

theorem gamma_scale (c : ℝ) (reps : List (Rep ℝ)) (gap : Int) (t : Nat) :
    Spec.gamma (reps.map (scaleRep c)) gap t = c ^ 2 * Spec.gamma reps gap t := by
  have h1 : ∀ r : Rep ℝ, Spec.gammaRep (scaleRep c r) gap t = c ^ 2 * Spec.gammaRep r gap t := fun r => by
    simp only [Spec.gammaRep, sum_eq, fluct_scale, show (scaleRep c r).idl = r.idl from rfl, ← List.sum_map_mul_left]
    exact congrArg _ (List.map_congr_left fun x _ => by ring)
  have h2 : ∀ r : Rep ℝ, Spec.pairsRep (scaleRep c r) gap t = Spec.pairsRep r gap t := fun r => rfl
  simp only [Spec.gamma, List.map_map, Function.comp_def, h1, h2, sum_eq, List.sum_map_mul_left, mul_div_assoc]

end PV.C03b
