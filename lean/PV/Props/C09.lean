/-
  Property C09 — roots and integrals of observable-dependent functions propagate errors exactly.
  The mathematics is in PV/Props/C09Alg.lean; here only the signs of the two limit terms of `quad`.
-/
import PV.Props.C09Alg

namespace PV

/-- `bsign = [-1, 1]`: the signs `quad` attaches to the integrand at the lower and the upper limit -/
theorem c09_limit_signs : ([-1, 1] : List Int).length = 2 ∧ ([-1, 1] : List Int)[0]! = -1 ∧ ([-1, 1] : List Int)[1]! = 1 := by
  decide

end PV
