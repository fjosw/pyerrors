/-
  The analysis of one ensemble is `determineGap`, then `gammaTable`, then `analyseGamma` (by `rfl`).  Here: the
  array expressions of the code (accumulated tables, clamped pair count, `np.cumsum`, the error of tau_int(W)) entry by
  entry, as the Wolff specification writes them, and the bounds on what `analyseGamma` returns.
-/
import PV.Proofs.FluctLemmas
import PV.Proofs.DrhoLemmas

namespace PV
open Scalar

theorem gammaEnsemble_eq_analyse {α : Type} [Transc α] (fp : FpConsts α) (ens : String) (reps : List (Rep α))
    (S tauExp nSigma : α) :
    gammaEnsemble fp ens reps S tauExp nSigma =
      (determineGap ens reps).bind (fun gap =>
        let wmax := (Py.fdiv ((reps.map (fun r => rLength r.idl gap)).foldl max 0) 2).toNat
        analyseGamma fp ens (ofNatS ((reps.map (·.idl.len)).foldr (· + ·) 0)) wmax (gammaTable reps wmax gap) S tauExp nSigma) := rfl

section
variable {α : Type} [Scalar α]

theorem foldl_addL_length {β : Type} (f : β → List α) (w : Nat) (hf : ∀ r, (f r).length = w)
    (l : List β) (init : List α) (hi : init.length = w) :
    (l.foldl (fun acc r => addL acc (f r)) init).length = w := by
  induction l generalizing init with
  | nil => exact hi
  | cons x xs ih =>
    apply ih
    simp [addL, hi, hf]

theorem calcGamma_length (d : List α) (i : Idl) (w : Nat) (g : Int) : (calcGamma d i w g).length = w := by
  simp [calcGamma]

end

variable {α : Type} [Transc α]

theorem gammaTable_length (reps : List (Rep α)) (wmax : Nat) (gap : Int) : (gammaTable reps wmax gap).length = wmax := by
  simp [gammaTable, foldl_addL_length _ wmax (fun _ => calcGamma_length _ _ _ _) reps]

theorem cumsum_length (l : List α) : (cumsum l).length = l.length := by
  induction l with
  | nil => rfl
  | cons x xs ih => simp [cumsum, ih]

end PV

namespace PV.C02c
open Scalar PV.RealS

theorem addL_eq_addLists : (addL : List ℝ → List ℝ → List ℝ) = addLists := rfl

theorem foldl_addL_getD (reps : List (Rep ℝ)) (g : Rep ℝ → List ℝ) (wmax : Nat) (hg : ∀ r ∈ reps, (g r).length = wmax)
    (t : Nat) :
    (reps.foldl (fun acc r => addL acc (g r)) (List.replicate wmax 0)).getD t 0 = (reps.map (fun r => (g r).getD t 0)).sum := by
  have := (foldl_addLists (ps := reps.map g) (p := List.replicate wmax 0)
    (List.forall_mem_map.mpr fun r hr => (hg r hr).trans List.length_replicate.symm)).2 t
  rwa [List.foldl_map, List.map_map, List.getD_eq_getElem?_getD (l := List.replicate _ _),
    List.getElem?_getD_replicate_default_eq, zero_add] at this

theorem natSum_cast {β : Type} (l : List β) (f : β → Nat) :
    (((l.map f).foldr (· + ·) 0 : Nat) : ℝ) = (l.map (fun x => (f x : ℝ))).sum := by
  rw [← List.sum_eq_foldr, Nat.cast_list_sum, List.map_map]
  rfl

/-- `gamma_div[gamma_div < 1] = 1.0` against `max 1 cnt` of the specification -/
theorem clamp_count (cnt : Nat) : (if (cnt : ℝ) < 1 then 1 else (cnt : ℝ)) = ((max 1 cnt : Nat) : ℝ) := by
  rw [Nat.cast_max, Nat.cast_one, max_comm, max_def_lt]

theorem cumsum_eq (l : List ℝ) (d : ℝ) :
    cumsum l = (List.range l.length).map (fun W => ((List.range (W + 1)).map (fun t => l.getD t d)).sum) := by
  induction l with
  | nil => rfl
  | cons x xs ih =>
    rw [cumsum, ih, List.length_cons, List.range_succ_eq_map, List.map_cons, List.map_map, List.map_map]
    refine congrArg₂ _ (add_zero x).symm (List.map_congr_left fun W _ => ?_)
    simp only [Function.comp_def, List.range_succ_eq_map (n := W + 1), List.map_cons, List.sum_cons, List.map_map,
      List.getD_cons_zero, Nat.succ_eq_add_one, List.getD_cons_succ]

/-- `np.cumsum(np.concatenate(([0.5], rho[1:])))` with the clamp against τ(W) = 1/2 + Σ_{t=1}^{W} ρ(t), clamped -/
theorem nTauint_eq (rho : List ℝ) (half eps d : ℝ) (wmax : Nat) (hlen : rho.length = wmax) (hw : 1 ≤ wmax) :
    (cumsum (half :: rho.drop 1)).map (fun x => if x ≤ half then half + eps else x)
      = (List.range wmax).map (fun W =>
          if half + sum ((List.range W).map (fun t => rho.getD (t + 1) d)) ≤ half then half + eps
          else half + sum ((List.range W).map (fun t => rho.getD (t + 1) d))) := by
  have hsum : ∀ W, ((List.range (W + 1)).map (fun t => (half :: rho.drop 1).getD t d)).sum
      = half + sum ((List.range W).map (fun t => rho.getD (t + 1) d)) := fun W => by
    simp only [List.range_succ_eq_map (n := W), List.map_cons, List.sum_cons, List.getD_cons_zero, List.map_map,
      Function.comp_def, Nat.succ_eq_add_one, List.getD_cons_succ, sum_eq]
    simp only [List.getD_eq_getElem?_getD, List.getElem?_drop, Nat.add_comm 1]
  rw [cumsum_eq _ d, List.map_map, List.length_cons, List.length_drop, hlen, Nat.sub_add_cancel hw]
  simp only [Function.comp_def, hsum]

/-- `e_n_dtauint`: an array expression in `np.arange(w_max)` and `e_n_tauint` (the `zip` of the model), then
    `e_n_dtauint[0] = 0.0` -/
theorem nDtauint_eq {β : Type} (nTau : List ℝ) (z : β) (d : ℝ) (wmax : Nat) (hlen : nTau.length = wmax) (f : Nat → ℝ → β) :
    ((List.zip (List.range wmax) nTau).map (fun (p : Nat × ℝ) => f p.1 p.2)).set 0 z
      = (List.range wmax).map (fun W => if W = 0 then z else f W (nTau.getD W d)) := by
  apply List.ext_getElem
  · simp [hlen]
  · intro W h1 h2
    have hW : W < nTau.length := by rwa [List.length_map, List.length_range, ← hlen] at h2
    simp only [List.getElem_map, List.getElem_range, List.getElem_set, List.getElem_zip, eq_comm (a := 0),
      List.getD_eq_getElem _ _ hW]

variable {α : Type} [Scalar α]

theorem window_congr (g g' : Nat → α) (wmax : Nat) (h : ∀ n, 1 ≤ n → n + 1 < wmax → g n = g' n) :
    Spec.window g wmax = Spec.window g' wmax := by
  unfold Spec.window
  rw [List.find?_congr fun k hk => by rw [h (k + 1) (by omega) (by have := List.mem_range.mp hk; omega)]]

end PV.C02c

namespace PV
open Scalar

open RealS

theorem getD_nonneg_of_forall (l : List ℝ) (h : ∀ x ∈ l, 0 ≤ x) (d : ℝ) (hd : 0 ≤ d) (n : Nat) :
    0 ≤ l.getD n d := by
  rw [List.getD_eq_getElem?_getD]
  cases hx : l[n]? with
  | none => exact hd
  | some x => exact h x (List.mem_of_getElem? hx)

theorem bias_ge (t eN m : ℝ) (ht : 1 / 2 < t) (heN : 0 < eN) (hm : 0 ≤ m) :
    1 / 2 ≤ t * (1 + (2 * m + 1) / eN) / (1 + 1 / eN) := by
  have hB : 0 < 1 + 1 / eN := add_pos one_pos (one_div_pos.mpr heN)
  rw [le_div_iff₀ hB]
  have h1 : 1 / eN ≤ (2 * m + 1) / eN :=
    div_le_div_of_nonneg_right (le_add_of_nonneg_left (mul_nonneg zero_le_two hm)) heN.le
  exact mul_le_mul ht.le (add_le_add_right h1 1) hB.le (one_half_pos.le.trans ht.le)

theorem clamp_gt (l : List ℝ) (h e : ℝ) (he : 0 < e) : ∀ t ∈ l.map (fun x => if x ≤ h then h + e else x), h < t := by
  intro t ht
  obtain ⟨x, _, rfl⟩ := List.mem_map.mp ht
  split
  · exact lt_add_of_pos_right _ he
  · exact not_le.mp ‹_›

/-- the clamp and the bias factor keep tau_int above 1/2; the errors are square roots or products of square roots -/
theorem analyseGamma_bounds (fp : FpConsts ℝ) (ens : String) (eN : ℝ) (wmax : Nat) (G : List ℝ) (S te ns : ℝ)
    (r : EnsResult ℝ) (hfp : fp.half = 1 / 2 ∧ 0 < fp.eps) (heN : 0 < eN) (hte : 0 ≤ te) (hG : G.length = wmax)
    (h : analyseGamma fp ens eN wmax G S te ns = .ok r) :
    1 / 2 ≤ r.tauint ∧ 0 ≤ r.dtauint ∧ 0 ≤ r.dvalue ∧ 0 ≤ r.ddvalue := by
  unfold analyseGamma at h
  extract_lets zero g0 rho nTau0 nTau nDtau0 nDtau drhoAt biasTau drho1 jp dv tau gw at h
  have hnTau : ∀ t ∈ nTau, 1 / 2 < t := hfp.1 ▸ clamp_gt nTau0 fp.half fp.eps hfp.2
  have hnDtau : ∀ n, 0 ≤ nDtau.getD n 𝟘 := fun n => by
    refine getD_nonneg_of_forall _ (fun x hx => ?_) _ (by simp) n
    rcases List.mem_or_eq_of_mem_set hx with hx | rfl
    · obtain ⟨p, hp, rfl⟩ := List.mem_map.mp hx
      exact mul_nonneg (mul_nonneg (le_trans (by norm_num) (hnTau p.2 (List.of_mem_zip hp).2).le) (by simp))
        (Real.sqrt_nonneg _)
    · simp
  have hlen : wmax ≤ nTau.length := by
    simp only [nTau, nTau0, rho, List.length_map, cumsum_length, List.length_cons, List.length_drop, hG]
    omega
  have hbias : ∀ n, n < wmax → 1 / 2 ≤ biasTau n := fun n hn => by
    have hn' : n < nTau.length := hn.trans_le hlen
    have := bias_ge _ eN n (hnTau _ (List.getElem_mem hn')) heN (Nat.cast_nonneg n)
    simpa only [biasTau, List.getD_eq_getElem?_getD, List.getElem?_eq_getElem hn', Option.getD_some,
      ofNatS_eq, ofNat_eq_lit, lit_eq, Nat.cast_ofNat, Nat.cast_one] using this
  have hsq : ∀ x y : ℝ, 0 ≤ Transc.sqrt x * Transc.sqrt y := fun x y =>
    mul_nonneg (Real.sqrt_nonneg _) (Real.sqrt_nonneg _)
  have hz : (0 : ℝ) ≤ 𝟘 := (Int.cast_zero (R := ℝ)).ge
  clear_value nTau nDtau biasTau drhoAt gw drho1 rho g0 zero
  rcases ite_eq_iff.mp h with ⟨_, h⟩ | ⟨_, h⟩
  · cases h
    exact ⟨hfp.1.ge, hz, hz, hz⟩
  rcases ite_eq_iff.mp h with ⟨_, h⟩ | ⟨_, h⟩
  · rcases ite_eq_iff.mp h with ⟨_, h⟩ | ⟨_, h⟩
    · cases h
    simp only [jp] at h
    split at h
    · cases h
    · rename_i W d hl
      cases h
      have hb := texpLoop_bound hl
      exact ⟨le_add_of_le_of_nonneg (hbias W (by omega)) (mul_nonneg hte (by rw [absS_eq]; exact abs_nonneg _)),
        Real.sqrt_nonneg _, Real.sqrt_nonneg _, hsq _ _⟩
  rcases ite_eq_iff.mp h with ⟨_, h⟩ | ⟨_, h⟩
  · cases h
    exact ⟨hfp.1.ge, hz, Real.sqrt_nonneg _, hsq _ _⟩
  split at h
  · cases h
  · rename_i W hl
    cases h
    have hb := windowLoop_bound hl
    exact ⟨hbias W (by omega), hnDtau W, Real.sqrt_nonneg _, hsq _ _⟩

end PV
