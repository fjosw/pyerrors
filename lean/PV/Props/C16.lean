/-
  Property C16 — GEVP and matrix pencil satisfy the eigen-equation and recover exact spectra.
  The mathematics is in PV/Props/C16Alg.lean; here the executable model PV/Model/Gevp.lean of pyerrors' own logic around
  the eigen-solver: which entries of the result are undefined, that state 0 is the LAST vector LAPACK returns, that the
  permutation search of `_sort_vectors` only re-orders and recovers the reference labelling, the refusals, and that the
  Hankel slicing of the pencil method produces the two matrices of `c16_hankel_factor`.  The model is run against
  pyerrors on every case.
-/
import PV.Proofs.DetBridge
import PV.Props.C16Alg
import PV.Proofs.GevpLemmas

namespace PV
open Scalar

variable {α : Type} [Scalar α]

/-- `[::-1]` on the ascending eigenvalue order puts the largest first: state index bookkeeping -/
theorem c16_reverse_index (n i : Nat) (h : i < n) : n - 1 - (n - 1 - i) = i :=
  Nat.sub_sub_self (Nat.le_sub_one_of_lt h)

/-! ### `_GEVP_solver`: state `i` is the `(N-1-i)`-th vector of the ascending decomposition -/

/-- eigh route: `eigh(Gt, G0)[1].T[::-1]` — state `i` is LAPACK's vector `N-1-i`; with
    `c16_order_reverse` (ascending eigenvalues) state 0 carries the largest eigenvalue -/
theorem c16_solver_descending (asc : List (List α)) (i : Nat) (hi : i < asc.length) :
    (solverOut none asc)[i]? = asc[asc.length - 1 - i]? :=
  List.getElem?_reverse hi

/-- Cholesky route: state `i` is `L⁻ᵀ w_{N-1-i}` (the back-substitution of `c16_cholesky_equivalence`) -/
theorem c16_solver_descending_cholesky (Li : List (List α)) (asc : List (List α)) (i : Nat) (hi : i < asc.length) :
    (solverOut (some Li) asc)[i]? = (asc[asc.length - 1 - i]?).map (tMulVec Li) := by
  rw [← List.getElem?_map, ← List.length_map (tMulVec Li)]
  exact List.getElem?_reverse (by rwa [List.length_map])

/-- non-vacuity: three "vectors" in ascending order come out reversed -/
example : solverOut none ([[1], [2], [3]] : List (List Rat)) = [[3], [2], [1]] := by decide

/-! ### `Corr.GEVP`: which entries are undefined -/

/-- `all_vecs[t]` is undefined for `t ≤ t0` and is the solver's answer at `t` afterwards -/
theorem c16_allVecs_entry (g : GevpIn α) (t : Nat) (ht : t < g.T) :
    g.allVecs[t]? = some (if t ≤ g.t0 then none else g.solve t) := by
  rw [GevpIn.allVecs, List.getElem?_map, List.getElem?_range ht]
  rfl

theorem c16_allVecs_length (g : GevpIn α) : g.allVecs.length = g.T := by
  simp [GevpIn.allVecs]

theorem c16_solve_undefined (g : GevpIn α) (t : Nat) (h : g.isDef t = false) : g.solve t = none := by
  simp [GevpIn.solve, h]

theorem c16_solve_defined (g : GevpIn α) (t : Nat) (h : g.isDef t = true) (vs : List (List α))
    (hasc : g.asc.getD t none = some vs) :
    g.solve t = some (solverOut (if g.cholesky then some g.cholInv else none) vs) := by
  rw [List.getD_eq_getElem?_getD] at hasc
  simp [GevpIn.solve, h, hasc]

-- `reorder` only moves entries: the `Scalar α` in scope is an argument of this theorem without being needed
set_option linter.unusedSectionVars false in
/-- `reordered_vecs[s][t]` is vector `s` of timeslice `t`, `None` where the slice is -/
theorem c16_reorder_entry (N : Nat) (av : List (Option (List (List α)))) (s t : Nat) (hs : s < N) (ht : t < av.length) :
    ((reorder N av)[s]?.bind (fun l => l[t]?)) = some ((av[t]).bind (fun vs => vs[s]?)) := by
  simp [reorder, hs, ht]

section gevp
-- the `do` block of `gevp` in the `Except` monad, unfolded by `simp`
attribute [local simp] pure Except.pure bind Except.bind throw throwThe MonadExceptOf.throw

/-- **C16 (result structure, sort by eigenvalue).**  For an admissible request the result has, for every
    state `s < N` and timeslice `t < T`: undefined if `t ≤ t0` or the timeslice is undefined, otherwise the
    `s`-th vector of the descending decomposition at `t`. -/
theorem c16_gevp_eigenvalue (g : GevpIn α) (hN : g.N ≠ 1) (hts : ∀ ts, g.ts = some ts → g.t0 < ts)
    (ht0 : g.t0 < g.T) (hdef : g.isDef g.t0 = true) (hpd : g.pd = true) (hsort : g.sort = .eigenvalue) :
    gevp g = .ok (.perT (reorder g.N g.allVecs)) := by
  unfold gevp
  cases hts' : g.ts with
  | none => simp [hN, ht0.not_ge, hdef, hpd, hsort]
  | some ts => simp [hN, ht0.not_ge, (hts ts hts').not_ge, hdef, hpd, hsort]

theorem c16_gevp_refuses_single (g : GevpIn α) (h : g.N = 1) : ∃ m, gevp g = .error (.valueError m) := by
  refine ⟨"GEVP methods only works on correlator matrices and not single correlators.", ?_⟩
  unfold gevp
  simp [h]

theorem c16_gevp_refuses_ts_le_t0 (g : GevpIn α) (hN : g.N ≠ 1) (ts : Nat) (h : g.ts = some ts) (hle : ts ≤ g.t0) :
    ∃ m, gevp g = .error (.valueError m) := by
  refine ⟨"ts has to be larger than t0.", ?_⟩
  unfold gevp
  simp [hN, h, hle]

theorem c16_gevp_refuses_undefined_t0 (g : GevpIn α) (hN : g.N ≠ 1) (hts : ∀ ts, g.ts = some ts → g.t0 < ts)
    (ht0 : g.t0 < g.T) (hdef : g.isDef g.t0 = false) : gevp g = .error .attributeError := by
  unfold gevp
  cases hts' : g.ts with
  | none => simp [hN, ht0.not_ge, hdef]
  | some ts => simp [hN, ht0.not_ge, (hts ts hts').not_ge, hdef]

end gevp

/-! ### `_sort_vectors` -/

/-- **C16 (the eigenvector sort only re-orders).**  Whatever the scores are, the slice returned for a
    timeslice is a permutation of the vectors found at that timeslice: nothing is lost or duplicated. -/
theorem c16_sort_slice_perm (ref vs : List (List α)) (prev bp : Option (List Nat)) (hlen : vs.length = ref.length)
    (hprev : ∀ q, prev = some q → q ∈ perms ref.length)
    (h : bestPerm (permScore ref vs) (perms ref.length) prev = bp) (q : List Nat) (hq : bp = some q) :
    ((applyPerm vs q).map (fun o => o.getD [])).Perm vs := by
  have hmem := bestPerm_some_mem hprev (h.trans hq)
  simpa using (applyPerm_perm vs q (hlen ▸ perms_perm hmem)).map (·.getD [])

/-- **C16 (`_sort_vectors` as a whole).**  For every list of timeslices (any length, any pattern of undefined
    slices, whatever the scores): the result has the same undefined pattern, and every defined slice is a
    permutation of the corresponding input slice. -/
theorem c16_sortVectors_perm (ref : List (List α)) (ts : Nat) :
    ∀ (l : List (Option (List (List α)))) (t : Nat) (prev : Option (List Nat)) (r : List (Option (List (List α)))),
      (∀ vs, some vs ∈ l → vs.length = ref.length) →
      (∀ q, prev = some q → q ∈ perms ref.length) →
      sortVectorsAux ref ts t l prev = .ok r →
      List.Forall₂ SliceRel l r := by
  intro l t prev r hlen hprev h
  -- one case per branch of `sortVectorsAux`: but for the raising one, the result is a head followed by the result for the rest
  fun_induction sortVectorsAux ref ts t l prev generalizing r with
  | case1 =>
    cases h
    exact .nil
  | case2 t rest prev ih =>
    obtain ⟨r', hrec, h⟩ := Except.bind_eq_ok.mp h
    cases h
    exact .cons trivial (ih r' (fun vs hvs => hlen vs (.tail _ hvs)) hprev hrec)
  | case3 t vs rest prev _ ih =>
    obtain ⟨r', hrec, h⟩ := Except.bind_eq_ok.mp h
    cases h
    exact .cons (.refl vs) (ih r' (fun vs hvs => hlen vs (.tail _ hvs)) hprev hrec)
  | case4 => cases h
  | case5 t vs rest prev _ bp hb ih =>
    obtain ⟨r', hrec, h⟩ := Except.bind_eq_ok.mp h
    cases h
    exact .cons (c16_sort_slice_perm ref vs prev _ (hlen vs List.mem_cons_self) hprev hb bp rfl)
      (ih r' (fun vs hvs => hlen vs (.tail _ hvs)) (fun q hq => Option.some.inj hq ▸ bestPerm_some_mem hprev hb) hrec)

/-- the same for the entry point (`reference = vec_set[ts]`) -/
theorem c16_sortVectors_perm_top (vecSet : List (Option (List (List α)))) (ts : Nat) (ref : List (List α))
    (r : List (Option (List (List α)))) (href : vecSet.getD ts none = some ref)
    (hlen : ∀ vs, some vs ∈ vecSet → vs.length = ref.length) (h : sortVectors vecSet ts = .ok r) :
    List.Forall₂ SliceRel vecSet r := by
  simp only [sortVectors, ite_error_eq_ok, href] at h
  exact c16_sortVectors_perm ref ts vecSet 0 none r hlen nofun h.2

/-- **C16 (the eigenvector sort recovers the reference labelling).**  Over the reals: if the scores single
    out one candidate `σ` (positive score, all others zero — the situation `c16_sort_score_alg` establishes
    for vectors that are non-zero multiples of the reference vectors in the order `σ`), the search returns
    `σ` whatever it held before; by `c16_applyPerm_places` the slice then puts vector `k` at state `σ[k]`. -/
theorem c16_sort_search_unique (score : List Nat → ℝ) (ps : List (List Nat)) (prev : Option (List Nat))
    (σ : List Nat) (hσ : σ ∈ ps) (hpos : 0 < score σ) (hz : ∀ p ∈ ps, p ≠ σ → score p = 0) :
    bestPerm score ps prev = some σ := by
  -- up to the first occurrence of `σ` nothing beats the initial 0, `σ` does, and nothing after it beats `σ`
  obtain ⟨l₁, l₂, rfl, hl₁⟩ := List.eq_append_cons_of_mem hσ
  have h0 : (@OfNat.ofNat ℝ 0 (instOfNatScalar 0)) = (0 : ℝ) := by simp
  rw [bestPerm, h0, List.foldl_append, List.foldl_cons,
    foldl_best_of_not_lt score l₁ _ fun p hp => by
      rw [hz p (List.mem_append_left _ hp) fun e => hl₁ (e ▸ hp)]; exact lt_irrefl _,
    if_pos hpos, foldl_best_of_not_lt score l₂ _ fun p hp => ?_]
  by_cases e : p = σ
  · exact e ▸ lt_irrefl _
  · rw [hz p (List.mem_append_right _ (List.mem_cons_of_mem _ hp)) e]; exact hpos.not_gt

/-- vector `k` lands at state `σ[k]` -/
theorem c16_applyPerm_places {β : Type} (vs : List β) (σ : List Nat) (hnd : σ.Nodup) (k : Nat) (hk : k < σ.length)
    (hlt : σ[k] < σ.length) : (applyPerm vs σ)[σ[k]]? = some vs[k]? := by
  rw [applyPerm, List.getElem?_map, List.getElem?_range hlt, Option.map_some, List.Nodup.idxOf_getElem hnd k hk]

/-- the scores of exact data: with `v_k = c_k · ref_{σ k}` (non-zero `c_k`, independent reference vectors) the
    product of determinants is non-zero exactly for the assignment `τ = σ` -/
theorem c16_sort_score_alg {n : ℕ} (M : Matrix (Fin n) (Fin n) ℝ) (hM : M.det ≠ 0) (c : Fin n → ℝ)
    (hc : ∀ k, c k ≠ 0) (σ τ : Equiv.Perm (Fin n)) :
    (∏ k, |(M.updateRow (τ k) (c k • M (σ k))).det|) ≠ 0 ↔ τ = σ := by
  -- factor `k` vanishes unless `τ k = σ k`: otherwise rows `τ k` and `σ k` of the matrix are proportional
  have key (k : Fin n) : |(M.updateRow (τ k) (c k • M (σ k))).det| ≠ 0 ↔ τ k = σ k := by
    rw [Matrix.det_updateRow_smul, abs_ne_zero, mul_ne_zero_iff_left (hc k)]
    refine ⟨fun h => by_contra fun hk => h (Matrix.det_zero_of_row_eq hk ?_), fun e => ?_⟩
    · rw [Matrix.updateRow_self, Matrix.updateRow_ne (Ne.symm hk)]
    · rwa [e, Matrix.updateRow_eq_self]
  simp only [Finset.prod_ne_zero_iff, Finset.mem_univ, forall_true_left, key, Equiv.ext_iff]

/-- non-vacuity of `c16_sort_score_alg`: the identity matrix is non-singular -/
example : (1 : Matrix (Fin 3) (Fin 3) ℝ).det ≠ 0 := by simp

/-! ### matrix pencil: the Hankel slicing -/

/-- **C16 (pencil matrices).**  `y1[i][j] = y[i + j]` and `y2[i][j] = y[i + j + 1]` for `i < n - p`, `j < p`:
    the two matrices built by `scipy.linalg.hankel(data[:n-p], data[n-p-1:])[:, :p]` / `[:, 1:]` are the Hankel
    matrices with offsets 0 and 1 of `c16_hankel_factor`. -/
theorem c16_pencil_entries (y : List α) (p i j : Nat) (hp : p < y.length) (hi : i < y.length - p) (hj : j < p) :
    (((pencil y p).1.getD i []).getD j 0 = y.getD (i + j) 0) ∧
    (((pencil y p).2.getD i []).getD j 0 = y.getD (i + j + 1) 0) := by
  have hk : y.length - p ≤ y.length := Nat.sub_le ..
  have hi' : i < (hankelPy (y.take (y.length - p)) (y.drop (y.length - p - 1))).length := by
    rwa [hankelPy_length, List.length_take_of_le hk]
  have hH := fun j (hj : j < p + 1) =>
    hankelPy_take_drop y (y.length - p) i j (by omega) hk hi (by omega)
  rw [← hH j (by omega), Nat.add_assoc, ← hH (j + 1) (by omega)]
  -- `y1` keeps columns `< p` of that matrix, `y2` drops column 0
  simp only [pencil, List.getD_eq_getElem?_getD, List.getElem?_map, List.getElem?_eq_getElem hi',
    Option.map_some, Option.getD_some, List.getElem?_take_of_lt hj, List.getElem?_drop, Nat.add_comm 1, and_self]

/-- non-vacuity: n = 6, p = 3 -/
example : pencil ([10, 11, 12, 13, 14, 15] : List Rat) 3
    = ([[10, 11, 12], [11, 12, 13], [12, 13, 14]], [[11, 12, 13], [12, 13, 14], [13, 14, 15]]) := by decide +kernel

/-! ### `Corr.projected` -/

/-- the projected correlator is undefined exactly where the matrix or the vector is -/
theorem c16_projected_defined (content : List (Option (List (List α)))) (vs : List (Option (List α))) (t : Nat)
    (ht : t < content.length) :
    ((projectedList content vs)[t]? = some none) ↔ (content.getD t none = none ∨ vs.getD t none = none) := by
  simp only [projectedList, List.getElem?_map, List.getElem?_range ht, Option.map_some, Option.some.injEq]
  cases content.getD t none <;> cases vs.getD t none <;> simp

open PV.DetBridge

/-- the Laplace-expansion determinant of the model equals Mathlib's `Matrix.det` for every square list matrix -/
theorem c16_det_is_det (M : List (List ℝ)) (n : Nat) (h : ShapedR M n n) : PV.det M = (toMR M n n).det :=
  det_model_eq M n h

/-- **C16 (the assignment found by the sorting is the true one, on the model).**  For a square, non-singular reference
    and vectors `v_k = c_k · ref_{σ k}` (exact data: every solved vector is a non-zero multiple of one reference
    vector), the score the model computes for an assignment `τ` is non-zero exactly for `τ = σ`. -/
theorem c16_sort_score_model (n : Nat) (ref : List (List ℝ)) (href : ShapedR ref n n) (hdet : (toMR ref n n).det ≠ 0)
    (c : Fin n → ℝ) (hc : ∀ k, c k ≠ 0) (σ τ : Equiv.Perm (Fin n)) :
    permScore ref (List.ofFn (fun k : Fin n => (ref.getD (σ k) []).map (c k * ·))) (List.ofFn (fun k : Fin n => ((τ k : Fin n) : Nat))) ≠ 0
      ↔ τ = σ := by
  have hrow (k : Fin n) : (ref.getD (σ k) []).length = n := by
    have hs : ((σ k : Fin n) : Nat) < ref.length := href.1 ▸ (σ k).2
    rw [List.getD_eq_getElem _ _ hs]; exact href.2 _ (List.getElem_mem hs)
  rw [permScore_eq ref _ _ n href τ (fun k => c k • toMR ref n n (σ k)) (fun k => getD_ofFn ..)
    (fun k => by rw [getD_ofFn, List.length_map, hrow]), c16_sort_score_alg _ hdet c hc]
  intro k j
  have hj : (j : Nat) < (ref.getD (σ k) []).length := (hrow k).symm ▸ j.2
  rw [getD_ofFn, getD_map_of_lt _ _ hj, ← List.getD_eq_getElem _ 0 hj]
  rfl


end PV
